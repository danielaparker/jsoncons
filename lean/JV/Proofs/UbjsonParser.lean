/-
  JV.Proofs.UbjsonParser — the ubjson_parser model (JV.Model.UbjsonParser) against the UBJSON reference decoder (JV.Spec.Ubjson):
  the readers in terms of `takeN` / `beVal` / `toSigned`, and `getLength_of_spec`: a length item the reference's `length` reads is read
  identically by `get_length`. The number and string fragments of Props.C07 are evaluations of `value` on top of these.
-/
import JV.Model.UbjsonParser
import JV.Spec.BinFormats
import JV.Proofs.CborParser
namespace JV.Model.UbjsonParser
open JV Spec.Cbor Spec

theorem readBE_none {w : Nat} {s : Bytes} (h : takeN w s = none) : readBE w s = .fail (.err .unexpectedEof) := by
  unfold takeN at h; unfold readBE
  split at h <;> simp_all

theorem readBE_some {w : Nat} {s d r : Bytes} (h : takeN w s = some (d, r)) : readBE w s = .ok (beVal d) r := by
  unfold takeN at h; unfold readBE
  split at h
  · simp at h
  · simp only [Option.some.injEq, Prod.mk.injEq] at h
    obtain ⟨h1, h2⟩ := h
    subst h1; subst h2
    simp [*, Model.CborParser.bigToNative_eq_beVal]

theorem readBE_short {w : Nat} {s : Bytes} (h : s.length < w) : readBE w s = .fail (.err .unexpectedEof) := by
  simp [readBE, h]

theorem readSpan_none {n : Nat} {s : Bytes} (h : takeN n s = none) : readSpan n s = .fail (.err .unexpectedEof) := by
  unfold takeN at h; unfold readSpan
  split at h <;> simp_all

theorem readSpan_some {n : Nat} {s d r : Bytes} (h : takeN n s = some (d, r)) : readSpan n s = .ok d r := by
  unfold takeN at h; unfold readSpan
  split at h
  · simp at h
  · simp only [Option.some.injEq, Prod.mk.injEq] at h
    obtain ⟨h1, h2⟩ := h
    subst h1; subst h2
    simp [*]

theorem badUtf8_eq (b : Bytes) : badUtf8 b = !Spec.Rfc8259.validUtf8 b :=
  Model.CborParser.badUtf8_eq b

/-- `big_to_native<int8_t/int16_t/int32_t/int64_t>` is the two's complement reading the specification prescribes -/
theorem asSigned_eq (w v : Nat) : asSigned w v = toSigned (8 * w) v := by
  unfold asSigned toSigned
  by_cases h : v < 2 ^ (8 * w - 1)
  · have : ¬ v ≥ 2 ^ (8 * w - 1) := by omega
    simp [h, this]
  · have : v ≥ 2 ^ (8 * w - 1) := by omega
    simp [h, this]

theorem takeN_map_some {w : Nat} {s r1 : Bytes} {g : Bytes → Int} {i : Int}
    (h : (takeN w s).map (fun p => (g p.1, p.2)) = some (i, r1)) : ∃ d, takeN w s = some (d, r1) ∧ g d = i := by
  cases ht : takeN w s with
  | none => simp [ht] at h
  | some p =>
    simp only [ht, Option.map_some, Option.some.injEq, Prod.mk.injEq] at h
    exact ⟨p.1, by rw [← h.2], h.1⟩

theorem signedLength_of {w : Nat} {s d r : Bytes} (ht : takeN w s = some (d, r)) (hn : ¬ toSigned (8 * w) (beVal d) < 0) :
    signedLength w s = .ok (toSigned (8 * w) (beVal d)).toNat r := by
  simp [signedLength, readBE_some ht, asSigned_eq w, hn]

theorem getLength_of_spec {s r : Bytes} {n : Nat} (h : Spec.Ubjson.length s = some (n, r)) : getLength s = .ok n r := by
  cases s with
  | nil => simp [Spec.Ubjson.length] at h
  | cons t s =>
    simp only [Spec.Ubjson.length] at h
    cases hi : Spec.Ubjson.intOf t s with
    | none => simp [hi] at h
    | some p =>
      obtain ⟨i, r1⟩ := p
      simp only [hi] at h
      by_cases hneg : i < 0
      · simp [hneg] at h
      · simp only [hneg, if_false, Option.some.injEq, Prod.mk.injEq] at h
        obtain ⟨rfl, rfl⟩ := h
        unfold Spec.Ubjson.intOf at hi
        unfold getLength
        by_cases e : t = 105 ∨ t = 85 ∨ t = 73 ∨ t = 108 ∨ t = 76
        · rcases e with rfl | rfl | rfl | rfl | rfl <;> simp only [Nat.reduceEqDiff, if_true, if_false] at hi ⊢
          · obtain ⟨d, ht, rfl⟩ := takeN_map_some (g := fun d => toSigned 8 (beVal d)) hi
            exact signedLength_of ht hneg
          · obtain ⟨d, ht, rfl⟩ := takeN_map_some (g := fun d => (beVal d : Int)) hi
            rw [readBE_some ht, Int.toNat_natCast]
          · obtain ⟨d, ht, rfl⟩ := takeN_map_some (g := fun d => toSigned 16 (beVal d)) hi
            exact signedLength_of ht hneg
          · obtain ⟨d, ht, rfl⟩ := takeN_map_some (g := fun d => toSigned 32 (beVal d)) hi
            exact signedLength_of ht hneg
          · obtain ⟨d, ht, rfl⟩ := takeN_map_some (g := fun d => toSigned 64 (beVal d)) hi
            exact signedLength_of ht hneg
        · have : ¬ t = 105 ∧ ¬ t = 85 ∧ ¬ t = 73 ∧ ¬ t = 108 ∧ ¬ t = 76 := by omega
          simp [this] at hi

end JV.Model.UbjsonParser
