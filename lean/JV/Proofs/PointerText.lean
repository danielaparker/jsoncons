/-
  JV.Proofs.PointerText — basic_json_pointer::parse and to_string are mutually inverse, and `parse` accepts
  exactly the RFC 6901 pointers, with the same tokens.
-/
import JV.Model.Pointer
import JV.Spec.Rfc6901
namespace JV
namespace Model
namespace Pointer

def Live (st : PState) : Prop := st = .newToken ∨ st = .part

theorem parseLoop_live_cons {st : PState} (h : Live st) (buf : Bytes) (toks : List Bytes) (c : Nat) (cs : Bytes) :
    parseLoop st buf toks (c :: cs) =
      if c = 47 then parseLoop .part [] (toks ++ [buf]) cs
      else if c = 126 then parseLoop .escaped buf toks cs
      else parseLoop .newToken (buf ++ [c]) toks cs := by
  rcases h with h | h <;> subst h <;> simp [parseLoop]

theorem parseLoop_escapeToken : ∀ (t : Bytes) (st : PState), Live st → ∀ (buf : Bytes) (toks : List Bytes) (rest : Bytes),
    ∃ st', Live st' ∧ parseLoop st buf toks (escapeToken t ++ rest) = parseLoop st' (buf ++ t) toks rest
  | [], st, h, buf, toks, rest => ⟨st, h, by simp [escapeToken]⟩
  | c :: cs, st, h, buf, toks, rest => by
    obtain ⟨st', hl, e⟩ := parseLoop_escapeToken cs .newToken (Or.inl rfl) (buf ++ [c]) toks rest
    refine ⟨st', hl, ?_⟩
    have e' : parseLoop .newToken (buf ++ [c]) toks (escapeToken cs ++ rest) = parseLoop st' (buf ++ c :: cs) toks rest := by
      simpa using e
    -- whatever `c` is printed as, reading that back appends `c` to the buffer
    simp only [escapeToken]
    split
    · next h1 => subst h1; rw [List.cons_append, parseLoop_live_cons h]; simpa [parseLoop] using e'
    · split
      · next h2 => subst h2; rw [List.cons_append, parseLoop_live_cons h]; simpa [parseLoop] using e'
      · next h1 h2 => rw [List.cons_append, parseLoop_live_cons h]; simpa [h1, h2] using e'

theorem finish_live {st : PState} (h : Live st) (buf : Bytes) (toks : List Bytes) :
    finish (st, buf, toks) = .ok (toks ++ [buf]) := by
  rcases h with h | h <;> subst h <;> rfl

theorem parseLoop_toString : ∀ (ts : List Bytes) (st : PState), Live st → ∀ (buf : Bytes) (toks : List Bytes),
    ∃ r, parseLoop st buf toks (toString ts) = .ok r ∧ finish r = .ok (toks ++ buf :: ts)
  | [], st, h, buf, toks => ⟨(st, buf, toks), by simp [toString, parseLoop], finish_live h buf toks⟩
  | t :: ts, st, h, buf, toks => by
    obtain ⟨st', hl, e⟩ := parseLoop_escapeToken t .part (Or.inr rfl) [] (toks ++ [buf]) (toString ts)
    obtain ⟨r, hr, hf⟩ := parseLoop_toString ts st' hl ([] ++ t) (toks ++ [buf])
    refine ⟨r, ?_, ?_⟩
    · simp only [toString]
      rw [parseLoop_live_cons h]
      simp only [if_true]
      rw [e, hr]
    · rw [hf]; simp

theorem parse_toString (ts : List Bytes) : parse (toString ts) = .ok ts := by
  cases ts with
  | nil => simp [toString, parse]
  | cons t ts =>
    obtain ⟨st', hl, e⟩ := parseLoop_escapeToken t .newToken (Or.inl rfl) [] [] (toString ts)
    obtain ⟨r, hr, hf⟩ := parseLoop_toString ts st' hl ([] ++ t) []
    simp only [parse, toString]
    simp only [List.cons_ne_nil, if_false, parseLoop, if_true]
    rw [e, hr]
    simpa using hf

theorem toString_inj {a b : List Bytes} (h : toString a = toString b) : a = b :=
  Except.ok.inj (by rw [← parse_toString a, h, parse_toString b])

theorem escapeToken_append (a b : Bytes) : escapeToken (a ++ b) = escapeToken a ++ escapeToken b := by
  induction a with
  | nil => rfl
  | cons c cs ih =>
    simp only [List.cons_append, escapeToken, ih]
    split
    · rfl
    · split <;> rfl

theorem toString_append (a b : List Bytes) : toString (a ++ b) = toString a ++ toString b := by
  induction a with
  | nil => rfl
  | cons t ts ih => simp [toString, ih]

/-- the text a loop state stands for -/
def reprOf : PState × Bytes × List Bytes → Bytes
  | (.escaped, buf, toks) => toString toks ++ 47 :: escapeToken buf ++ [126]
  | (_, buf, toks) => toString toks ++ 47 :: escapeToken buf

theorem parseLoop_repr : ∀ (rest : Bytes) (st : PState) (buf : Bytes) (toks : List Bytes) (r : PState × Bytes × List Bytes),
    st ≠ .start → parseLoop st buf toks rest = .ok r → r.1 ≠ .start ∧ reprOf r = reprOf (st, buf, toks) ++ rest
  | [], st, buf, toks, r, hs, h => by
    simp only [parseLoop, Except.ok.injEq] at h
    subst h; exact ⟨hs, by simp⟩
  | c :: cs, st, buf, toks, r, hs, h => by
    -- one character is consumed; the state reached stands for the text so far plus that character
    have step : ∀ st' buf' toks', st' ≠ .start → parseLoop st' buf' toks' cs = .ok r →
        reprOf (st', buf', toks') = reprOf (st, buf, toks) ++ [c] →
        r.1 ≠ .start ∧ reprOf r = reprOf (st, buf, toks) ++ c :: cs := fun st' buf' toks' hs' h' e => by
      have ih := parseLoop_repr cs st' buf' toks' r hs' h'
      exact ⟨ih.1, by rw [ih.2, e]; simp⟩
    cases st with
    | start => exact absurd rfl hs
    | escaped =>
      simp only [parseLoop] at h
      split at h
      · next h0 => subst h0; exact step _ _ _ (by decide) h (by simp [reprOf, escapeToken_append, escapeToken])
      · split at h
        · next h1 => subst h1; exact step _ _ _ (by decide) h (by simp [reprOf, escapeToken_append, escapeToken])
        · cases h
    | newToken | part =>
      rw [parseLoop_live_cons (by simp [Live])] at h
      split at h
      · next h1 => subst h1; exact step _ _ _ (by decide) h (by simp [reprOf, toString_append, toString, escapeToken])
      · split at h
        · next h2 => subst h2; exact step _ _ _ (by decide) h (by simp [reprOf])
        · next h1 h2 => exact step _ _ _ (by decide) h (by simp [reprOf, escapeToken_append, escapeToken, h1, h2])

theorem toString_parse (s : Bytes) (ts : List Bytes) (h : parse s = .ok ts) : toString ts = s := by
  cases s with
  | nil => simp [parse] at h; subst h; rfl
  | cons c cs =>
    simp only [parse, List.cons_ne_nil, if_false, parseLoop] at h
    by_cases hc : c = 47
    · subst hc
      simp only [if_true] at h
      cases hl : parseLoop .newToken [] [] cs with
      | error e => rw [hl] at h; cases h
      | ok r =>
        rw [hl] at h
        obtain ⟨hns, hrep⟩ := parseLoop_repr cs .newToken [] [] r (by decide) hl
        obtain ⟨st, buf, toks⟩ := r
        cases st with
        | start => exact absurd rfl hns
        | escaped => cases h
        | newToken | part =>
          simp only [finish, Except.ok.injEq] at h
          subst h
          simpa [reprOf, toString_append, toString, escapeToken] using hrep
    · simp [hc] at h

section rfc
open Spec.Rfc6901

theorem splitSlash_ne_nil (s : Bytes) : splitSlash s ≠ [] := by
  fun_induction splitSlash s <;> simp

theorem splitSlash_no47 : ∀ a : Bytes, 47 ∉ a → splitSlash a = [a]
  | [], _ => rfl
  | c :: cs, h => by
    simp only [List.mem_cons, not_or] at h
    simp [splitSlash, splitSlash_no47 cs h.2, Ne.symm h.1]

theorem splitSlash_app : ∀ (a : Bytes), 47 ∉ a → ∀ b, splitSlash (a ++ 47 :: b) = a :: splitSlash b
  | [], _, b => by
    obtain ⟨p, ps, h⟩ := List.exists_cons_of_ne_nil (splitSlash_ne_nil b)
    simp [splitSlash, h]
  | c :: cs, h, b => by
    simp only [List.mem_cons, not_or] at h
    simp only [List.cons_append, splitSlash, splitSlash_app cs h.2 b, Ne.symm h.1, if_false]

theorem escapeToken_no47 : ∀ t : Bytes, 47 ∉ escapeToken t
  | [] => by simp [escapeToken]
  | c :: cs => by
    have ih := escapeToken_no47 cs
    by_cases h1 : c = 126
    · simp [escapeToken, h1, ih]
    · by_cases h2 : c = 47
      · simp [escapeToken, h2, ih]
      · simp [escapeToken, h1, h2, ih, Ne.symm h2]

theorem splitSlash_toString : ∀ (rest : List Bytes) (t : Bytes),
    splitSlash (escapeToken t ++ toString rest) = escapeToken t :: rest.map escapeToken
  | [], t => by simp [toString, splitSlash_no47 _ (escapeToken_no47 t)]
  | t2 :: r, t => by
    simp only [toString, List.map_cons]
    rw [splitSlash_app _ (escapeToken_no47 t), splitSlash_toString r t2]

theorem unescape_cons_other (c : Nat) (cs : Bytes) (h : c ≠ 126) : unescape (c :: cs) = (unescape cs).map (c :: ·) := by
  simp [unescape, h]

theorem unescape_escape : ∀ t : Bytes, unescape (escapeToken t) = some t
  | [] => by simp [escapeToken, unescape]
  | c :: cs => by
    simp only [escapeToken]
    by_cases h1 : c = 126
    · subst h1; simp [unescape, unescape_escape cs]
    · by_cases h2 : c = 47
      · subst h2; simp [unescape, unescape_escape cs]
      · simp only [h1, h2, if_false]
        rw [unescape_cons_other c _ h1, unescape_escape cs]; rfl

theorem mapM_unescape_escape : ∀ ts : List Bytes, mapM' unescape (ts.map escapeToken) = some ts
  | [] => rfl
  | t :: ts => by simp [mapM', unescape_escape t, mapM_unescape_escape ts]

theorem tokens_toString : ∀ ts : List Bytes, tokens (toString ts) = some ts
  | [] => rfl
  | t :: rest => by
    simp only [toString, tokens, if_true]
    rw [splitSlash_toString rest t]
    exact mapM_unescape_escape (t :: rest)

theorem parse_sound {s : Bytes} {ts : List Bytes} (h : parse s = .ok ts) : tokens s = some ts := by
  rw [← toString_parse s ts h]; exact tokens_toString ts

def rawJoin : List Bytes → Bytes
  | [] => []
  | p :: ps => 47 :: (p ++ rawJoin ps)

theorem toString_eq_rawJoin : ∀ ts : List Bytes, toString ts = rawJoin (ts.map escapeToken)
  | [] => rfl
  | t :: ts => by simp [toString, rawJoin, toString_eq_rawJoin ts]

theorem rawJoin_splitSlash (cs : Bytes) : rawJoin (splitSlash cs) = 47 :: cs := by
  fun_induction splitSlash cs with
  | case1 => rfl
  | case2 c cs h ih => rw [h] at ih; cases ih
  | case3 cs p ps h ih => rw [h] at ih; simpa [rawJoin] using ih
  | case4 c cs p ps h _ ih => rw [h] at ih; simpa [rawJoin] using ih

theorem splitSlash_pieces (s : Bytes) : ∀ p ∈ splitSlash s, 47 ∉ p := by
  fun_induction splitSlash s with
  | case1 => simp
  | case2 => simp
  | case3 cs p ps h ih => rw [h] at ih; simpa using ih
  | case4 c cs p ps h hc ih => rw [h] at ih; simpa [Ne.symm hc] using ih

theorem escapeToken_of_unescape (s : Bytes) : ∀ t, unescape s = some t → 47 ∉ s → escapeToken t = s := by
  fun_induction unescape s with
  | case1 => intro t h _; cases h; rfl
  | case2 cs ih | case3 cs ih =>
    intro t h hn
    obtain ⟨a, ha, rfl⟩ := Option.map_eq_some_iff.1 h
    simp only [List.mem_cons, not_or] at hn
    simp [escapeToken, ih a ha hn.2.2]
  | case4 => intro t h; cases h
  | case5 c cs _ _ hc ih =>
    intro t h hn
    obtain ⟨a, ha, rfl⟩ := Option.map_eq_some_iff.1 h
    simp only [List.mem_cons, not_or] at hn
    simp [escapeToken, show c ≠ 126 from hc, Ne.symm hn.1, ih a ha hn.2]

theorem escape_unescape : ∀ (n : Nat) (s t : Bytes), s.length ≤ n → unescape s = some t → (∀ c ∈ s, c ≠ 47) → escapeToken t = s :=
  fun _ s t _ h hn => escapeToken_of_unescape s t h (fun h47 => hn 47 h47 rfl)

theorem mapM_unescape_inv : ∀ (ps ts : List Bytes), (∀ p ∈ ps, 47 ∉ p) → mapM' unescape ps = some ts →
    ts.map escapeToken = ps
  | [], ts, _, h => by cases h; rfl
  | p :: ps, ts, hn, h => by
    obtain ⟨hp, hps⟩ := List.forall_mem_cons.1 hn
    simp only [mapM'] at h
    split at h
    · next t ts' hu hm => cases h; simp [escapeToken_of_unescape p t hu hp, mapM_unescape_inv ps ts' hps hm]
    · cases h

theorem parse_complete {s : Bytes} {ts : List Bytes} (h : tokens s = some ts) : parse s = .ok ts := by
  cases s with
  | nil => simp [tokens] at h; subst h; rfl
  | cons c cs =>
    simp only [tokens] at h
    by_cases hc : c = 47
    · subst hc
      simp only [if_true] at h
      have := mapM_unescape_inv (splitSlash cs) ts (splitSlash_pieces cs) h
      have hs : toString ts = 47 :: cs := by rw [toString_eq_rawJoin, this, rawJoin_splitSlash]
      rw [← hs]; exact parse_toString ts
    · simp [hc] at h

end rfc

end Pointer
end Model
end JV
