/-
  JV.Proofs.PatchSpec — `apply_patch` on sorted objects (`jsoncons::json`) against RFC 6901 / RFC 6902, both ways.

  Modifying operations: on a well-formed document the reference's `update` at `loc ++ [k]` is its `atParent`
  on the container `get d loc`, put back at `loc` (`update_snoc`), which is the shape `apply_snoc` gives the
  model; so model and reference agree as soon as `finalStep` and `atParent` do on one container
  (`finalStep_refines`, `finalStep_fallback`, `finalStep_complete`).  The converse direction needs arrays shorter
  than 2^64, because the model reads index tokens as `size_t`.
-/
import JV.Proofs.PointerText
import JV.Proofs.PatchUndo
import JV.Spec.Rfc6902
namespace JV
namespace Model
namespace Pointer
open Assoc Spec.Rfc6901

def specOp : Final → Spec.Rfc6901.Op
  | .add v => .add v
  | .addIfAbsent v => .addIfAbsent v
  | .replace v => .replace v
  | .remove => .remove

def specSlot (forAdd : Bool) (n : Nat) (k : Bytes) : Option Nat :=
  if forAdd = true ∧ k = [45] then some n
  else match arrayIndex k with
    | none => none
    | some i => if (if forAdd then i ≤ n else i < n) then some i else none

theorem atParent_arr (f : Final) (xs : List JVal) (k : Bytes) :
    atParent (specOp f) (.arr xs) k = (specSlot f.isAdd xs.length k).map fun i => .arr (f.onList i xs) := by
  cases f with
  | add v | addIfAbsent v =>
    simp only [specOp, atParent, specSlot, Final.isAdd, Final.onList, true_and, if_true]
    by_cases hd : k = [45]
    · simp [hd, insertAt_length]
    · simp only [hd, if_false]
      cases arrayIndex k with
      | none => rfl
      | some i => by_cases h1 : i ≤ xs.length <;> simp [h1, insertAt]
  | replace v | remove =>
    simp only [specOp, atParent, specSlot, Final.isAdd, Final.onList, Bool.false_eq_true, false_and, if_false]
    cases arrayIndex k with
    | none => rfl
    | some i => by_cases h1 : i < xs.length <;> simp [h1]

theorem atParent_obj (f : Final) {ms : List (Bytes × JVal)} (hs : Sorted ms) (k : Bytes) :
    atParent (specOp f) (.obj ms) k = match f.memberErr false (find k ms).isSome with
      | some _ => none
      | none => some (.obj (f.onMembers false k ms)) := by
  cases f <;> cases hf : find k ms <;>
    simp [specOp, atParent, Final.memberErr, Final.onMembers, hf, assign_eq_insertOrAssign hs]

theorem atParent_obj_isSome (f : Final) (ms : List (Bytes × JVal)) (k : Bytes) :
    (atParent (specOp f) (.obj ms) k).isSome = (f.memberErr false (find k ms).isSome).isNone := by
  cases f <;> cases hf : find k ms <;> simp [specOp, atParent, Final.memberErr, hf]

theorem specSlot_of_slot {forAdd : Bool} {n i : Nat} {k : Bytes} (h : slot forAdd n k = .ok i) :
    specSlot forAdd n k = some i := by
  unfold slot at h
  unfold specSlot
  by_cases hd : k = [45]
  · subst hd
    cases forAdd <;> simp_all [isDash]
  · have hd' := isDash_false_of_ne hd
    cases hi : decToIndex k with
    | none => simp [hd', hi] at h
    | some j =>
      simp only [hd', hi, Bool.false_eq_true, if_false] at h
      simp only [hd, and_false, if_false, decToIndex_sound hi]
      cases forAdd with
      | true =>
        by_cases h1 : j > n
        · simp [h1] at h
        · simp [h1] at h; subst h; simp [show j ≤ n by omega]
      | false =>
        by_cases h1 : j ≥ n
        · simp [h1] at h
        · simp [h1] at h; subst h; simp [show j < n by omega]

theorem slot_of_specSlot {forAdd : Bool} {n i : Nat} {k : Bytes} (hn : n < 2 ^ 64) (h : specSlot forAdd n k = some i) :
    slot forAdd n k = .ok i := by
  unfold specSlot at h
  unfold slot
  by_cases hd : k = [45]
  · subst hd
    cases forAdd <;> simp_all [isDash, arrayIndex_dash]
  · have hd' := isDash_false_of_ne hd
    simp only [hd, and_false, if_false] at h
    cases hi : arrayIndex k with
    | none => simp [hi] at h
    | some j =>
      simp only [hi] at h
      cases forAdd with
      | true =>
        by_cases h1 : j ≤ n
        · simp [h1] at h; subst h
          simp [hd', decToIndex_complete hi (by omega), show ¬ j > n by omega]
        · simp [h1] at h
      | false =>
        by_cases h1 : j < n
        · simp [h1] at h; subst h
          simp [hd', decToIndex_complete hi (by omega), show ¬ j ≥ n by omega]
        · simp [h1] at h

theorem finalStep_refines (f : Final) (c : JVal) (tok : Bytes) (hw : c.WF)
    (hok : (finalStep false false f c tok).1 = none) :
    atParent (specOp f) c tok = some (finalStep false false f c tok).2 := by
  cases c with
  | arr xs =>
    rw [finalStep_arr] at hok ⊢
    rw [atParent_arr]
    cases hs : slot f.isAdd xs.length tok with
    | error e => simp [hs] at hok
    | ok i => rw [specSlot_of_slot hs]; rfl
  | obj ms =>
    have hs : Sorted ms := hw.1
    rw [finalStep_obj] at hok ⊢
    rw [atParent_obj f hs]
    cases he : f.memberErr false (find tok ms).isSome with
    | some e => simp [he] at hok
    | none => rfl
  | null | bool _ | int _ | str _ => simp [finalStep] at hok

/-- the insert-else-replace fallback: where `add_if_absent` fails and `replace` succeeds, the last token
    names an existing object member, and RFC 6902 `add` replaces it -/
theorem finalStep_fallback (v c : JVal) (tok : Bytes) (hw : c.WF)
    (hfail : (finalStep false false (.addIfAbsent v) c tok).1 ≠ none)
    (hok : (finalStep false false (.replace v) c tok).1 = none) :
    atParent (.add v) c tok = some (finalStep false false (.replace v) c tok).2 := by
  cases c with
  | arr xs =>
    -- a position `replace` accepts is one `add_if_absent` accepts too
    exfalso
    rw [finalStep_arr] at hok hfail
    cases hs : slot false xs.length tok with
    | error e => simp [Final.isAdd, hs] at hok
    | ok i =>
      obtain ⟨hd, hi, hlt⟩ := slot_ok hs
      simp [Final.isAdd, slot_of_index hd hi, show ¬ i > xs.length by omega] at hfail
  | obj ms =>
    have hs : Sorted ms := hw.1
    cases hf : find tok ms with
    | none => simp [finalStep, hf] at hok
    | some x => simp [finalStep, atParent, hf, assign_eq_insertOrAssign hs]
  | null | bool _ | int _ | str _ => simp [finalStep] at hok

theorem atParent_addIfAbsent_add (v c : JVal) (tok : Bytes) (r : JVal)
    (h : atParent (.addIfAbsent v) c tok = some r) : atParent (.add v) c tok = some r := by
  cases c with
  | arr xs => simpa [atParent] using h
  | obj ms =>
    simp only [atParent] at h ⊢
    split at h
    · simp at h
    · exact h
  | null | bool _ | int _ | str _ => simp [atParent] at h

def SmallTop : JVal → Prop
  | .arr xs => xs.length < 2 ^ 64
  | _ => True

theorem smallTop_of_small {c : JVal} (h : SmallArrays c) : SmallTop c := by
  cases c <;> simp_all [SmallArrays, SmallTop]

theorem finalStep_complete (f : Final) (c : JVal) (tok : Bytes) (r : JVal) (hs : SmallTop c)
    (h : atParent (specOp f) c tok = some r) : (finalStep false false f c tok).1 = none := by
  cases c with
  | arr xs =>
    rw [atParent_arr] at h
    cases hsl : specSlot f.isAdd xs.length tok with
    | none => simp [hsl] at h
    | some i => rw [finalStep_arr, slot_of_specSlot hs hsl]
  | obj ms =>
    have hsome := atParent_obj_isSome f ms tok
    rw [h] at hsome
    rw [finalStep_obj]
    cases he : f.memberErr false (find tok ms).isSome with
    | some e => simp [he] at hsome
    | none => rfl
  | null | bool _ | int _ | str _ => simp [atParent] at h

theorem update_cons (op : Spec.Rfc6901.Op) {d : JVal} {tok : Bytes} {c : JVal} {rest : List Bytes} (hw : d.WF)
    (hc : child d tok = .ok c) (hr : rest ≠ []) :
    update op d (tok :: rest) = (update op c rest).map (setChild d tok) := by
  cases rest with
  | nil => exact absurd rfl hr
  | cons t2 rest =>
    rcases child_ok hc with ⟨xs, i, rfl, _, hi, hx⟩ | ⟨ms, rfl, hf⟩
    · simp only [update, updateAt, decToIndex_sound hi, hx]
      congr 1
      funext x'
      simp [setChild, hi]
    · have hs : Sorted ms := hw.1
      simp only [update, updateAt, hf, assign_eq_replaceVal hs hf]
      rfl

theorem update_snoc (op : Spec.Rfc6901.Op) (k : Bytes) : ∀ (loc : List Bytes) {d c : JVal}, d.WF → get d loc = .ok c →
    update op d (loc ++ [k]) = (atParent op c k).map (put d loc)
  | [], d, c, _, hg => by
    rw [get_nil] at hg
    cases Except.ok.inj hg
    simp only [List.nil_append, update, updateAt]
    cases atParent op d k <;> simp [put_nil]
  | tok :: loc, d, c, hw, hg => by
    obtain ⟨c1, hc, hg⟩ := get_cons_ok hg
    rw [List.cons_append, update_cons op hw hc (by simp), update_snoc op k loc (wf_docInv.child hw hc) hg,
      Option.map_map]
    congr 1
    funext x
    exact (put_cons_ok hc loc x).symm

theorem update_cons_some (op : Spec.Rfc6901.Op) {d : JVal} {tok : Bytes} {rest : List Bytes} {r : JVal} (hr : rest ≠ [])
    (h : update op d (tok :: rest) = some r) :
    ∃ x a, (∀ rest', eval d (tok :: rest') = eval x rest') ∧ update op x rest = some a := by
  cases rest with
  | nil => exact absurd rfl hr
  | cons t2 rest =>
    cases d with
    | arr xs =>
      simp only [update, updateAt] at h
      cases hi : arrayIndex tok with
      | none => simp [hi] at h
      | some i =>
        cases hx : xs[i]? with
        | none => simp [hi, hx] at h
        | some x =>
          simp only [hi, hx, Option.map_eq_some_iff] at h
          obtain ⟨a, ha, _⟩ := h
          exact ⟨x, a, fun _ => by simp [eval, hi, hx], ha⟩
    | obj ms =>
      simp only [update, updateAt] at h
      cases hf : find tok ms with
      | none => simp [hf] at h
      | some x =>
        simp only [hf, Option.map_eq_some_iff] at h
        obtain ⟨a, ha, _⟩ := h
        exact ⟨x, a, fun _ => by simp [eval, hf], ha⟩
    | null | bool _ | int _ | str _ => simp [update, updateAt] at h

theorem update_snoc_some (op : Spec.Rfc6901.Op) (k : Bytes) : ∀ (loc : List Bytes) {d r : JVal},
    update op d (loc ++ [k]) = some r → ∃ c r2, eval d loc = some c ∧ atParent op c k = some r2
  | [], d, r, h => ⟨d, r, by cases d <;> rfl, by simpa [update, updateAt] using h⟩
  | tok :: loc, d, r, h => by
    obtain ⟨x, a, he, ha⟩ := update_cons_some op (by simp) h
    obtain ⟨c, r2, hc, hr⟩ := update_snoc_some op k loc ha
    exact ⟨c, r2, by rw [he]; exact hc, hr⟩

theorem small_get : ∀ (loc : List Bytes) {d c : JVal}, SmallArrays d → get d loc = .ok c → SmallArrays c
  | [], d, c, hs, h => by rw [get_nil] at h; exact Except.ok.inj h ▸ hs
  | tok :: rest, d, c, hs, h => by
    obtain ⟨c1, hc, h⟩ := get_cons_ok h
    refine small_get rest ?_ h
    rcases child_ok hc with ⟨xs, i, rfl, _, _, hx⟩ | ⟨ms, rfl, hf⟩
    · exact small_of_getElem (by simpa [SmallArrays] using hs : xs.length < 2 ^ 64 ∧ SmallList xs).2 hx
    · exact small_of_find (by simpa [SmallArrays] using hs) hf

theorem update_snoc_get (op : Spec.Rfc6901.Op) (k : Bytes) (loc : List Bytes) {d r : JVal} (hs : SmallArrays d)
    (h : update op d (loc ++ [k]) = some r) :
    ∃ c r2, get d loc = .ok c ∧ SmallArrays c ∧ atParent op c k = some r2 := by
  obtain ⟨c, r2, hc, hr⟩ := update_snoc_some op k loc h
  have hg := get_complete loc d c hs hc
  exact ⟨c, r2, hg, small_get loc hs hg, hr⟩

theorem apply_refines_lift (f : Final) (op : Spec.Rfc6901.Op) {d : JVal} (loc : List Bytes) (k : Bytes) (hw : d.WF)
    (hpar : ∀ c, get d loc = .ok c → c.WF → (finalStep false false f c k).1 = none →
      atParent op c k = some (finalStep false false f c k).2)
    (hok : (apply false false f d (loc ++ [k])).1 = none) :
    update op d (loc ++ [k]) = some (apply false false f d (loc ++ [k])).2 := by
  rw [apply_snoc] at hok ⊢
  cases hg : get d loc with
  | error e => simp [hg] at hok
  | ok c =>
    rw [hg] at hok
    rw [update_snoc op k loc hw hg, hpar c hg (wf_docInv.get loc hw hg) hok]
    rfl

theorem apply_refines (f : Final) (d : JVal) (ts : List Bytes) (hw : d.WF)
    (hok : (apply false false f d ts).1 = none) :
    update (specOp f) d ts = some (apply false false f d ts).2 := by
  rcases List.eq_nil_or_concat ts with rfl | ⟨loc, k, rfl⟩
  · cases f <;> simp_all [apply, update, specOp]
  · rw [List.concat_eq_append] at hok ⊢
    exact apply_refines_lift f _ loc k hw (fun c _ hwc h => finalStep_refines f c k hwc h) hok

theorem apply_complete (f : Final) (d : JVal) (ts : List Bytes) (r : JVal) (hs : SmallArrays d)
    (h : update (specOp f) d ts = some r) : (apply false false f d ts).1 = none := by
  rcases List.eq_nil_or_concat ts with rfl | ⟨loc, k, rfl⟩
  · cases f <;> simp_all [apply, update, specOp]
  · rw [List.concat_eq_append] at h ⊢
    obtain ⟨c, r2, hg, hsc, hr⟩ := update_snoc_get _ k loc hs h
    rw [apply_snoc_ok false f k hg]
    exact finalStep_complete f c k r2 (smallTop_of_small hsc) hr

theorem child_of_atParent (f : Final) (hf : f = .remove ∨ ∃ v, f = .replace v) (c : JVal) (k : Bytes) (r2 : JVal)
    (hst : SmallTop c) (hr : atParent (specOp f) c k = some r2) : ∃ x, child c k = .ok x := by
  have hfin := finalStep_complete f c k r2 hst hr
  cases c with
  | arr xs =>
    have hadd : f.isAdd = false := by rcases hf with rfl | ⟨v, rfl⟩ <;> rfl
    rw [finalStep_arr, hadd] at hfin
    cases hsl : slot false xs.length k with
    | error e => simp [hsl] at hfin
    | ok i =>
      obtain ⟨hd, hi, hlt⟩ := slot_ok hsl
      exact ⟨xs[i], child_arr hd hi (List.getElem?_eq_getElem hlt)⟩
  | obj ms =>
    cases hfi : find k ms with
    | none => rcases hf with hf | ⟨v, hf⟩ <;> subst hf <;> simp [finalStep, hfi] at hfin
    | some x => exact ⟨x, by simp [child, hfi]⟩
  | null | bool _ | int _ | str _ => simp [atParent] at hr

theorem get_of_update (f : Final) (hf : f = .remove ∨ ∃ v, f = .replace v) (d : JVal) (ts : List Bytes) (r : JVal)
    (hs : SmallArrays d) (h : update (specOp f) d ts = some r) : ∃ x, get d ts = .ok x := by
  rcases List.eq_nil_or_concat ts with rfl | ⟨loc, k, rfl⟩
  · exact ⟨d, get_nil d⟩
  · rw [List.concat_eq_append] at h ⊢
    obtain ⟨c, r2, hg, hsc, hr⟩ := update_snoc_get _ k loc hs h
    rw [get_snoc, hg]
    exact child_of_atParent f hf c k r2 (smallTop_of_small hsc) hr

end Pointer

namespace Patch
open Assoc Pointer Spec.Rfc6901

theorem definitePath_update (v d : JVal) (loc : List Bytes) (hw : d.WF) :
    update (.add v) d (definitePath d loc) = update (.add v) d loc := by
  rcases List.eq_nil_or_concat loc with rfl | ⟨l, last, rfl⟩
  · rfl
  · rw [List.concat_eq_append]
    simp only [definitePath, List.getLast?_concat, List.dropLast_concat]
    by_cases hd : last = [45]
    · subst hd
      simp only [ne_eq, not_true_eq_false, if_false]
      cases hg : get d l with
      | error e => rfl
      | ok c =>
        cases c with
        | arr xs =>
          simp only []
          rw [update_snoc _ _ _ hw hg, update_snoc _ _ _ hw hg]
          simp [atParent, natDigits_ne_dash, arrayIndex_natDigits]
        | _ => rfl
    · simp only [ne_eq, hd, not_false_eq_true, if_true]

theorem addLike_refines (t : JVal) (np : List Bytes) (v : JVal) (hw : t.WF)
    (h : (addLike false t np v).1 = true) :
    update (.add v) t np = some (addLike false t np v).2.1 := by
  revert h
  refine addLike_cases (P := fun r => r.1 = true → update (.add v) t np = some r.2.1) ?_ ?_ ?_ (fun _ _ _ => by simp)
  · rintro rfl _; rfl
  · intro hn hi _
    obtain ⟨loc, k, rfl⟩ := (List.eq_nil_or_concat np).resolve_left hn
    rw [List.concat_eq_append] at hi ⊢
    exact apply_refines_lift (.addIfAbsent v) (.add v) loc k hw
      (fun c _ hwc hk => atParent_addIfAbsent_add v c k _ (finalStep_refines (.addIfAbsent v) c k hwc hk)) hi
  · intro orig hn hi _ hr _
    obtain ⟨loc, k, rfl⟩ := (List.eq_nil_or_concat np).resolve_left hn
    rw [List.concat_eq_append] at hi hr ⊢
    refine apply_refines_lift (.replace v) (.add v) loc k hw (fun c hc hwc hk => ?_) hr
    rw [apply_snoc_ok false _ k hc] at hi
    exact finalStep_fallback v c k hwc hi hk

theorem addLike_definite_refines (t : JVal) (loc : List Bytes) (v : JVal) (hw : t.WF)
    (h : (addLike false t (definitePath t loc) v).1 = true) :
    update (.add v) t loc = some (addLike false t (definitePath t loc) v).2.1 := by
  rw [← definitePath_update v t loc hw]; exact addLike_refines t _ v hw h

theorem addLike_complete (t : JVal) (np : List Bytes) (v r : JVal) (hs : SmallArrays t)
    (h : update (.add v) t np = some r) : (addLike false t np v).1 = true := by
  refine addLike_cases (P := fun r => r.1 = true) (fun _ => rfl) (fun _ _ => rfl) (fun _ _ _ _ _ => rfl) ?_
  intro hn hi hfail
  exfalso
  obtain ⟨loc, k, rfl⟩ := (List.eq_nil_or_concat np).resolve_left hn
  rw [List.concat_eq_append] at h hi hfail
  obtain ⟨c, r2, hg, hsc, hr⟩ := update_snoc_get _ k loc hs h
  rw [apply_snoc_ok false _ k hg] at hi hfail
  rw [get_snoc, hg] at hfail
  -- `add` is defined on the container but `add_if_absent` fails: `k` names an existing member of an object
  have hadd := finalStep_complete (.add v) c k r2 (smallTop_of_small hsc) hr
  cases c with
  | arr xs => simp only [finalStep] at hadd hi; exact hi hadd
  | obj ms =>
    cases hf : find k ms with
    | none => simp [finalStep, hf] at hi
    | some x => simp [child, finalStep, hf] at hfail
  | null | bool _ | int _ | str _ => simp [atParent] at hr

theorem addLike_definite_complete (t : JVal) (loc : List Bytes) (v r : JVal) (hw : t.WF) (hs : SmallArrays t)
    (h : update (.add v) t loc = some r) : (addLike false t (definitePath t loc) v).1 = true :=
  addLike_complete t _ v r hs (by rw [definitePath_update v t loc hw]; exact h)

theorem strOf_eq : strOf = Spec.Rfc6902.str? := by
  funext v; cases v <;> rfl

theorem key_op : Spec.Rfc6902.key "op" = sOp := rfl
theorem key_path : Spec.Rfc6902.key "path" = sPath := rfl
theorem key_from : Spec.Rfc6902.key "from" = sFrom := rfl
theorem key_value : Spec.Rfc6902.key "value" = sValue := rfl
theorem key_add : Spec.Rfc6902.key "add" = sAdd := rfl
theorem key_remove : Spec.Rfc6902.key "remove" = sRemove := rfl
theorem key_replace : Spec.Rfc6902.key "replace" = sReplace := rfl
theorem key_move : Spec.Rfc6902.key "move" = sMove := rfl
theorem key_copy : Spec.Rfc6902.key "copy" = sCopy := rfl
theorem key_test : Spec.Rfc6902.key "test" = sTest := rfl

theorem decode_obj (om : List (Bytes × JVal)) (op path : Bytes) (loc : List Bytes)
    (h1 : (find sOp om).bind strOf = some op) (h2 : (find sPath om).bind strOf = some path)
    (h3 : tokens path = some loc) :
    Spec.Rfc6902.decode (.obj om) =
      if op = sAdd then (find sValue om).map (Spec.Rfc6902.Op.add loc)
      else if op = sRemove then some (Spec.Rfc6902.Op.remove loc)
      else if op = sReplace then (find sValue om).map (Spec.Rfc6902.Op.replace loc)
      else if op = sMove then (((find sFrom om).bind strOf).bind tokens).map (Spec.Rfc6902.Op.move · loc)
      else if op = sCopy then (((find sFrom om).bind strOf).bind tokens).map (Spec.Rfc6902.Op.copy · loc)
      else if op = sTest then (find sValue om).map (Spec.Rfc6902.Op.test loc)
      else none := by
  rw [strOf_eq] at h1 h2 ⊢
  simp only [Spec.Rfc6902.decode, key_op, key_path, key_from, key_value, key_add, key_remove, key_replace,
    key_move, key_copy, key_test, h1, h2, h3, Option.bind_eq_bind, Option.bind_some]
  rfl

def specStep (t operation : JVal) : Option JVal :=
  (Spec.Rfc6902.decode operation).bind (Spec.Rfc6902.applyOp t)

theorem opTest_refines (t : JVal) (loc : List Bytes) (om : List (Bytes × JVal))
    (h : (opTest t loc om).1 = none) :
    ∃ v, find sValue om = some v ∧ Spec.Rfc6902.applyOp t (.test loc v) = some (opTest t loc om).2.1 := by
  unfold opTest at h ⊢
  cases hg : Pointer.get t loc with
  | error e => simp [hg] at h
  | ok val =>
    simp only [hg] at h ⊢
    cases hv : find sValue om with
    | none => simp [hv] at h
    | some v =>
      simp only [hv] at h ⊢
      by_cases hne : (val != v) = true
      · simp [hne] at h
      · have heq : (val == v) = true := by simpa [bne] using hne
        refine ⟨v, rfl, ?_⟩
        simp [hne, Spec.Rfc6902.applyOp, get_sound _ _ _ hg, heq]

theorem opAdd_refines (t : JVal) (loc : List Bytes) (om : List (Bytes × JVal)) (hw : t.WF)
    (h : (opAdd false t loc om).1 = none) :
    ∃ v, find sValue om = some v ∧ Spec.Rfc6902.applyOp t (.add loc v) = some (opAdd false t loc om).2.1 := by
  revert h
  exact opAdd_cases
    (P := fun r => r.1 = none → ∃ v, find sValue om = some v ∧ Spec.Rfc6902.applyOp t (.add loc v) = some r.2.1)
    (fun _ h => by simp at h) fun v hv ha _ => ⟨v, hv, addLike_definite_refines t loc v hw ha⟩

theorem opRemove_refines (t : JVal) (loc : List Bytes) (hw : t.WF)
    (h : (opRemove false t loc).1 = none) :
    Spec.Rfc6902.applyOp t (.remove loc) = some (opRemove false t loc).2.1 := by
  revert h
  exact opRemove_cases (P := fun r => r.1 = none → Spec.Rfc6902.applyOp t (.remove loc) = some r.2.1)
    (fun _ h => by simp at h) fun _ _ hr _ => apply_refines .remove t loc hw hr

theorem opReplace_refines (t : JVal) (loc : List Bytes) (om : List (Bytes × JVal)) (hw : t.WF)
    (h : (opReplace false t loc om).1 = none) :
    ∃ v, find sValue om = some v ∧ Spec.Rfc6902.applyOp t (.replace loc v) = some (opReplace false t loc om).2.1 := by
  revert h
  exact opReplace_cases
    (P := fun r => r.1 = none → ∃ v, find sValue om = some v ∧ Spec.Rfc6902.applyOp t (.replace loc v) = some r.2.1)
    (fun _ h => by simp at h) fun _ v _ hv hr _ => ⟨v, hv, apply_refines (.replace v) t loc hw hr⟩

theorem opMove_refines (t : JVal) (loc : List Bytes) (om : List (Bytes × JVal)) (hw : t.WF)
    (h : (opMove false t loc om).1 = none) :
    ∃ fp, ((find sFrom om).bind strOf).bind tokens = some fp ∧
      Spec.Rfc6902.applyOp t (.move fp loc) = some (opMove false t loc om).2.1 := by
  revert h
  refine opMove_cases
    (P := fun r => r.1 = none → ∃ fp, ((find sFrom om).bind strOf).bind tokens = some fp ∧
      Spec.Rfc6902.applyOp t (.move fp loc) = some r.2.1)
    (fun _ h => by simp at h) fun from_ fp val hf hp hg hr => ?_
  intro t1 a h
  cases ha : a.1 with
  | false => simp [ha] at h
  | true =>
    refine ⟨fp, by simp [hf, parse_sound hp], ?_⟩
    have hrm : update .remove t fp = some t1 := apply_refines .remove t fp hw hr
    have hw1 : t1.WF := wf_docInv.apply (f := .remove) trivial hw fp
    simp only [if_true, Spec.Rfc6902.applyOp, get_sound _ _ _ hg, hrm, Option.bind_eq_bind, Option.bind_some]
    exact addLike_definite_refines t1 loc val hw1 ha

theorem opCopy_refines (t : JVal) (loc : List Bytes) (om : List (Bytes × JVal)) (hw : t.WF)
    (h : (opCopy false t loc om).1 = none) :
    ∃ fp, ((find sFrom om).bind strOf).bind tokens = some fp ∧
      Spec.Rfc6902.applyOp t (.copy fp loc) = some (opCopy false t loc om).2.1 := by
  revert h
  refine opCopy_cases
    (P := fun r => r.1 = none → ∃ fp, ((find sFrom om).bind strOf).bind tokens = some fp ∧
      Spec.Rfc6902.applyOp t (.copy fp loc) = some r.2.1)
    (fun _ h => by simp at h) fun from_ fp val hf hp hg ha _ => ⟨fp, by simp [hf, parse_sound hp], ?_⟩
  simp only [Spec.Rfc6902.applyOp, get_sound _ _ _ hg, Option.bind_eq_bind, Option.bind_some]
  exact addLike_definite_refines t loc val hw ha

theorem decode_head {operation : JVal} {om : List (Bytes × JVal)} {op : Bytes} {loc : List Bytes}
    (hd : Head operation om op loc) :
    Spec.Rfc6902.decode operation =
      if op = sAdd then (find sValue om).map (Spec.Rfc6902.Op.add loc)
      else if op = sRemove then some (Spec.Rfc6902.Op.remove loc)
      else if op = sReplace then (find sValue om).map (Spec.Rfc6902.Op.replace loc)
      else if op = sMove then (((find sFrom om).bind strOf).bind tokens).map (Spec.Rfc6902.Op.move · loc)
      else if op = sCopy then (((find sFrom om).bind strOf).bind tokens).map (Spec.Rfc6902.Op.copy · loc)
      else if op = sTest then (find sValue om).map (Spec.Rfc6902.Op.test loc)
      else none := by
  obtain ⟨rfl, h1, path, h2, h3⟩ := hd
  exact decode_obj om op path loc h1 h2 (parse_sound h3)

section
variable {operation : JVal} {om : List (Bytes × JVal)} {loc : List Bytes}

theorem decode_test (hd : Head operation om sTest loc) :
    Spec.Rfc6902.decode operation = (find sValue om).map (Spec.Rfc6902.Op.test loc) := decode_head hd
theorem decode_add (hd : Head operation om sAdd loc) :
    Spec.Rfc6902.decode operation = (find sValue om).map (Spec.Rfc6902.Op.add loc) := decode_head hd
theorem decode_remove (hd : Head operation om sRemove loc) :
    Spec.Rfc6902.decode operation = some (Spec.Rfc6902.Op.remove loc) := decode_head hd
theorem decode_replace (hd : Head operation om sReplace loc) :
    Spec.Rfc6902.decode operation = (find sValue om).map (Spec.Rfc6902.Op.replace loc) := decode_head hd
theorem decode_move (hd : Head operation om sMove loc) :
    Spec.Rfc6902.decode operation = (((find sFrom om).bind strOf).bind tokens).map (Spec.Rfc6902.Op.move · loc) :=
  decode_head hd
theorem decode_copy (hd : Head operation om sCopy loc) :
    Spec.Rfc6902.decode operation = (((find sFrom om).bind strOf).bind tokens).map (Spec.Rfc6902.Op.copy · loc) :=
  decode_head hd

end

theorem applyOp_refines (t operation : JVal) (hw : t.WF) (h : (applyOp false t operation).1 = none) :
    specStep t operation = some (applyOp false t operation).2.1 := by
  revert h
  refine applyOp_cases (P := fun r => r.1 = none → specStep t operation = some r.2.1) ?_ ?_ ?_ ?_ ?_ ?_ ?_
  · intro _ h; cases h
  · intro om loc hd h
    obtain ⟨v, hv, hr⟩ := opTest_refines t loc om h
    rw [specStep, decode_test hd, hv]; exact hr
  · intro om loc hd h
    obtain ⟨v, hv, hr⟩ := opAdd_refines t loc om hw h
    rw [specStep, decode_add hd, hv]; exact hr
  · intro om loc hd h
    rw [specStep, decode_remove hd]; exact opRemove_refines t loc hw h
  · intro om loc hd h
    obtain ⟨v, hv, hr⟩ := opReplace_refines t loc om hw h
    rw [specStep, decode_replace hd, hv]; exact hr
  · intro om loc hd h
    obtain ⟨fp, hv, hr⟩ := opMove_refines t loc om hw h
    rw [specStep, decode_move hd, hv]; exact hr
  · intro om loc hd h
    obtain ⟨fp, hv, hr⟩ := opCopy_refines t loc om hw h
    rw [specStep, decode_copy hd, hv]; exact hr

theorem applyOps_cons (t o : JVal) (os : List JVal) :
    Spec.Rfc6902.applyOps t (o :: os) = (specStep t o).bind (fun d1 => Spec.Rfc6902.applyOps d1 os) := by
  simp only [Spec.Rfc6902.applyOps, specStep, Option.bind_eq_bind]
  cases Spec.Rfc6902.decode o <;> simp

theorem applyLoop_refines : ∀ (ops : List JVal) (t : JVal) (stack : List Undo), t.WF → (∀ op ∈ ops, OpValWF op) →
    (applyLoop false t ops stack).1 = none →
    Spec.Rfc6902.applyOps t ops = some (applyLoop false t ops stack).2
  | [], t, stack, _, _, _ => by simp [applyLoop, Spec.Rfc6902.applyOps]
  | o :: os, t, stack, hw, hv, h => by
    simp only [applyLoop] at h ⊢
    cases he : (applyOp false t o).1 with
    | some e => simp [he] at h
    | none =>
      simp only [he] at h ⊢
      have hstep := applyOp_refines t o hw he
      have hw2 := applyOp_wf t o hw (hv o (by simp))
      rw [applyOps_cons, hstep]
      exact applyLoop_refines os _ _ hw2 (fun op hm => hv op (by simp [hm])) h

theorem opTest_complete (t : JVal) (loc : List Bytes) (om : List (Bytes × JVal)) (v r : JVal) (hs : SmallArrays t)
    (hv : find sValue om = some v) (h : Spec.Rfc6902.applyOp t (.test loc v) = some r) : (opTest t loc om).1 = none := by
  simp only [Spec.Rfc6902.applyOp, Option.bind_eq_bind, Option.bind_eq_some_iff] at h
  obtain ⟨x, he, h⟩ := h
  have heq : (x == v) = true := Decidable.byContradiction fun hb => by rw [if_neg hb] at h; cases h
  simp [opTest, get_complete loc t x hs he, hv, bne, heq]

theorem opAdd_complete (t : JVal) (loc : List Bytes) (om : List (Bytes × JVal)) (v r : JVal) (hw : t.WF)
    (hs : SmallArrays t) (hv : find sValue om = some v) (h : Spec.Rfc6902.applyOp t (.add loc v) = some r) :
    (opAdd false t loc om).1 = none := by
  simp only [Spec.Rfc6902.applyOp] at h
  simp [opAdd, hv, addLike_definite_complete t loc v r hw hs h]

theorem opRemove_complete (t : JVal) (loc : List Bytes) (r : JVal) (hs : SmallArrays t)
    (h : Spec.Rfc6902.applyOp t (.remove loc) = some r) : (opRemove false t loc).1 = none := by
  simp only [Spec.Rfc6902.applyOp] at h
  obtain ⟨x, hg⟩ := get_of_update .remove (Or.inl rfl) t loc r hs h
  have ha := apply_complete .remove t loc r hs h
  simp [opRemove, hg, ha]

theorem opReplace_complete (t : JVal) (loc : List Bytes) (om : List (Bytes × JVal)) (v r : JVal) (hs : SmallArrays t)
    (hv : find sValue om = some v) (h : Spec.Rfc6902.applyOp t (.replace loc v) = some r) :
    (opReplace false t loc om).1 = none := by
  simp only [Spec.Rfc6902.applyOp] at h
  obtain ⟨x, hg⟩ := get_of_update (.replace v) (Or.inr ⟨v, rfl⟩) t loc r hs h
  have ha := apply_complete (.replace v) t loc r hs h
  simp [opReplace, hg, hv, ha]

theorem from_complete {om : List (Bytes × JVal)} {fp : List Bytes}
    (hf : ((find sFrom om).bind strOf).bind tokens = some fp) :
    ∃ from_, (find sFrom om).bind strOf = some from_ ∧ parse from_ = .ok fp := by
  obtain ⟨from_, hfs, ht⟩ := Option.bind_eq_some_iff.1 hf
  exact ⟨from_, hfs, parse_complete ht⟩

theorem opMove_complete (t : JVal) (loc : List Bytes) (om : List (Bytes × JVal)) (fp : List Bytes) (r : JVal)
    (hw : t.WF) (hs : SmallArrays t)
    (hmid : ∀ d1, update .remove t fp = some d1 → SmallArrays d1)
    (hf : ((find sFrom om).bind strOf).bind tokens = some fp)
    (h : Spec.Rfc6902.applyOp t (.move fp loc) = some r) : (opMove false t loc om).1 = none := by
  obtain ⟨from_, hfs, hp⟩ := from_complete hf
  simp only [Spec.Rfc6902.applyOp, Option.bind_eq_bind, Option.bind_eq_some_iff] at h
  obtain ⟨val, he, d1, hrm, h⟩ := h
  have hg := get_complete fp t val hs he
  have ha := apply_complete .remove t fp d1 hs hrm
  have hd1 : (Pointer.apply false false .remove t fp).2 = d1 :=
    Option.some.inj ((apply_refines .remove t fp hw ha).symm.trans hrm)
  have hw1 : d1.WF := hd1 ▸ wf_docInv.apply (f := .remove) trivial hw fp
  simp [opMove, hfs, hp, hg, ha, hd1, addLike_definite_complete d1 loc val r hw1 (hmid d1 hrm) h]

theorem opCopy_complete (t : JVal) (loc : List Bytes) (om : List (Bytes × JVal)) (fp : List Bytes) (r : JVal)
    (hw : t.WF) (hs : SmallArrays t) (hf : ((find sFrom om).bind strOf).bind tokens = some fp)
    (h : Spec.Rfc6902.applyOp t (.copy fp loc) = some r) : (opCopy false t loc om).1 = none := by
  obtain ⟨from_, hfs, hp⟩ := from_complete hf
  simp only [Spec.Rfc6902.applyOp, Option.bind_eq_bind, Option.bind_eq_some_iff] at h
  obtain ⟨val, he, h⟩ := h
  simp [opCopy, hfs, getStr, hp, get_complete fp t val hs he, addLike_definite_complete t loc val r hw hs h]

def MoveMidSmall (t : JVal) : Prop := ∀ fp d1, update .remove t fp = some d1 → SmallArrays d1

theorem head_of_decode {operation : JVal} {sop : Spec.Rfc6902.Op} (h : Spec.Rfc6902.decode operation = some sop) :
    ∃ om op loc, Head operation om op loc ∧ op ∈ [sTest, sAdd, sRemove, sReplace, sMove, sCopy] := by
  cases operation with
  | obj om =>
    simp only [Spec.Rfc6902.decode, Option.bind_eq_bind, Option.bind_eq_some_iff, ← strOf_eq, key_op, key_path] at h
    obtain ⟨op, h1, loc, ⟨path, h2, h3⟩, h⟩ := h
    refine ⟨om, op, loc, ⟨rfl, Option.bind_eq_some_iff.2 h1, path, Option.bind_eq_some_iff.2 h2, parse_complete h3⟩,
      Decidable.byContradiction fun hno => ?_⟩
    -- an "op" that is none of the six falls through every branch of `decode`
    simp only [List.mem_cons, List.mem_nil_iff, or_false, not_or] at hno
    simp only [key_add, key_remove, key_replace, key_move, key_copy, key_test, hno, if_false] at h
    cases h
  | null | bool _ | int _ | str _ | arr _ => simp [Spec.Rfc6902.decode] at h

theorem applyOp_complete (t operation r : JVal) (hw : t.WF) (hs : SmallArrays t) (hmid : MoveMidSmall t)
    (h : specStep t operation = some r) : (applyOp false t operation).1 = none := by
  revert h
  unfold specStep
  refine applyOp_cases
    (P := fun res => (Spec.Rfc6902.decode operation).bind (Spec.Rfc6902.applyOp t) = some r → res.1 = none)
    ?_ ?_ ?_ ?_ ?_ ?_ ?_
  · intro hno h
    cases hdec : Spec.Rfc6902.decode operation with
    | none => simp [hdec] at h
    | some sop =>
      obtain ⟨om, op, loc, hd, hmem⟩ := head_of_decode hdec
      exact absurd hmem (hno om op loc hd)
  · intro om loc hd h
    rw [decode_test hd] at h
    cases hv : find sValue om with
    | none => simp [hv] at h
    | some v => rw [hv] at h; exact opTest_complete t loc om v r hs hv h
  · intro om loc hd h
    rw [decode_add hd] at h
    cases hv : find sValue om with
    | none => simp [hv] at h
    | some v => rw [hv] at h; exact opAdd_complete t loc om v r hw hs hv h
  · intro om loc hd h
    rw [decode_remove hd] at h
    exact opRemove_complete t loc r hs h
  · intro om loc hd h
    rw [decode_replace hd] at h
    cases hv : find sValue om with
    | none => simp [hv] at h
    | some v => rw [hv] at h; exact opReplace_complete t loc om v r hs hv h
  · intro om loc hd h
    rw [decode_move hd] at h
    cases hf : ((find sFrom om).bind strOf).bind tokens with
    | none => simp [hf] at h
    | some fp => rw [hf] at h; exact opMove_complete t loc om fp r hw hs (hmid fp) hf h
  · intro om loc hd h
    rw [decode_copy hd] at h
    cases hf : ((find sFrom om).bind strOf).bind tokens with
    | none => simp [hf] at h
    | some fp => rw [hf] at h; exact opCopy_complete t loc om fp r hw hs hf h

/-- every document the reference run passes through has arrays shorter than 2^64 (incl. the document
    between the two halves of a `move`) — always true of C++ containers -/
def SmallRun : JVal → List JVal → Prop
  | d, [] => SmallArrays d
  | d, o :: os => SmallArrays d ∧ MoveMidSmall d ∧ ∀ d1, specStep d o = some d1 → SmallRun d1 os

theorem applyLoop_complete : ∀ (ops : List JVal) (t : JVal) (stack : List Undo) (r : JVal), t.WF →
    (∀ op ∈ ops, OpValWF op) → SmallRun t ops → Spec.Rfc6902.applyOps t ops = some r →
    (applyLoop false t ops stack).1 = none
  | [], t, stack, r, _, _, _, _ => by simp [applyLoop]
  | o :: os, t, stack, r, hw, hv, hsr, h => by
    rw [applyOps_cons] at h
    cases hstep : specStep t o with
    | none => simp [hstep] at h
    | some d1 =>
      simp only [hstep, Option.bind_some] at h
      have hok := applyOp_complete t o d1 hw hsr.1 hsr.2.1 hstep
      have href := applyOp_refines t o hw hok
      rw [hstep] at href
      simp only [Option.some.injEq] at href
      have hw2 := applyOp_wf t o hw (hv o (by simp))
      simp only [applyLoop, hok]
      rw [← href]
      exact applyLoop_complete os d1 _ r (by rw [href]; exact hw2) (fun op hm => hv op (by simp [hm]))
        (hsr.2.2 d1 hstep) h

end Patch
end Model
end JV
