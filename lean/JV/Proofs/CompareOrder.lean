/-
  JV.Proofs.CompareOrder — on the domain `dom L` (no NaN / infinity, no `json()` empty_object, stored integers within ±2^53, strings
  all short (L = false) or all long (L = true)) `compare` is a total preorder: `compare a b ≤ 0` is transitive.
-/
import JV.Proofs.CompareFull
namespace JV
namespace Model
namespace Compare

mutual
  def dom (L : Bool) : CVal → Bool
    | .null => true
    | .bool _ => true
    | .bstr _ => true
    | .emptyObj => false
    | .i64 v => decide (-(2 ^ 53 : Int) ≤ v ∧ v ≤ 2 ^ 53)
    | .u64 v => decide (v ≤ 2 ^ 53)
    | .dbl b => dExp b != 2047
    | .half h => dExp (halfToDouble h) != 2047
    | .str s => decide (shortMax < s.length) == L
    | .arr xs => domL L xs
    | .obj ms => domM L ms
  def domL (L : Bool) : List CVal → Bool
    | [] => true
    | x :: xs => dom L x && domL L xs
  def domM (L : Bool) : List (Bytes × CVal) → Bool
    | [] => true
    | (_, x) :: ms => dom L x && domM L ms
end

theorem domL_mem {L : Bool} {xs : List CVal} : domL L xs = true → ∀ x ∈ xs, dom L x = true :=
  forall_mem_of_all (domL L) (dom L) (fun _ _ => by rw [domL])

theorem domM_mem {L : Bool} {ms : List (Bytes × CVal)} : domM L ms = true → ∀ p ∈ ms, dom L p.2 = true :=
  forall_mem_of_all (domM L) (fun p => dom L p.2) (fun _ _ => by rw [domM])

mutual
  theorem dom_finite (L : Bool) : ∀ a : CVal, dom L a = true → finite a = true
    | .null, _ => rfl
    | .bool _, _ => rfl
    | .bstr _, _ => rfl
    | .str _, _ => rfl
    | .emptyObj, _ => rfl
    | .i64 v, h => by simp [dom, finite] at *; omega
    | .u64 v, h => by simp [dom, finite] at *; omega
    | .dbl b, h => by simpa [dom, finite] using h
    | .half b, h => by simpa [dom, finite] using h
    | .arr xs, h => by simp only [dom] at h; simp only [finite]; exact domL_finite L xs h
    | .obj ms, h => by simp only [dom] at h; simp only [finite]; exact domM_finite L ms h
  theorem domL_finite (L : Bool) : ∀ xs : List CVal, domL L xs = true → finiteL xs = true
    | [], _ => rfl
    | x :: xs, h => by
      simp only [domL, Bool.and_eq_true] at h
      simp only [finiteL, Bool.and_eq_true]
      exact ⟨dom_finite L x h.1, domL_finite L xs h.2⟩
  theorem domM_finite (L : Bool) : ∀ ms : List (Bytes × CVal), domM L ms = true → finiteM ms = true
    | [], _ => rfl
    | (_, x) :: ms, h => by
      simp only [domM, Bool.and_eq_true] at h
      simp only [finiteM, Bool.and_eq_true]
      exact ⟨dom_finite L x h.1, domM_finite L ms h.2⟩
end

/-- the class a value is ordered in against values of other classes (numbers form one class) -/
def cls (L : Bool) : CVal → Int
  | .null => 0
  | .bool _ => 1
  | .i64 _ => 2
  | .u64 _ => 2
  | .dbl _ => 2
  | .emptyObj => 4
  | .half _ => 6
  | .str _ => if L then 15 else 7
  | .bstr _ => 12
  | .obj _ => 13
  | .arr _ => 14

theorem isNum_of_cls (L : Bool) (b : CVal) (h : cls L b = 2) : isNum b = true := by
  cases L <;> cases b <;> simp [cls, isNum] at *

/-! ### on `dom L` the class is the family, ranked by the kind index -/

/-- a value of each family that `dom L` admits (for objects a real object, not `json()`) -/
def Family.sample : Family → CVal
  | .null => .null
  | .bool => .bool false
  | .num => .i64 0
  | .half => .half 0
  | .str => .str []
  | .bstr => .bstr []
  | .obj => .obj []
  | .arr => .arr []

/-- the class of every `dom L` value of family `f` (`cls_eq_rank`), read off the sample -/
def rank (L : Bool) (f : Family) : Int := cls L f.sample

theorem rank_inj {L : Bool} {f g : Family} (h : rank L f = rank L g) : f = g := by
  cases f <;> cases g <;> first | rfl | (cases L <;> exact absurd h (by decide))

theorem cls_eq_rank {L : Bool} {a : CVal} (da : dom L a = true) : cls L a = rank L (family a) := by
  cases a <;> first | rfl | cases da

theorem family_eq_iff_cls {L : Bool} {a b : CVal} (da : dom L a = true) (db : dom L b = true) :
    family a = family b ↔ cls L a = cls L b := by
  rw [cls_eq_rank da, cls_eq_rank db]
  exact ⟨congrArg _, rank_inj⟩

/-- outside the number class the kind index is the class; inside it the kinds 2..5 share class 2 -/
theorem dom_kind {L : Bool} {a : CVal} (da : dom L a = true) :
    kind a = cls L a ∧ (cls L a < 2 ∨ 5 < cls L a) ∨ cls L a = 2 ∧ 2 ≤ kind a ∧ kind a ≤ 5 := by
  cases a
  case str s => cases L <;> simp [dom, kind, cls] at da ⊢ <;> omega
  case emptyObj => cases da
  all_goals simp [kind, cls]

theorem compare_diff_cls {L : Bool} {a b : CVal} (da : dom L a = true) (db : dom L b = true) (h : cls L a ≠ cls L b) :
    compare a b = cmpII (cls L a) (cls L b) := by
  rw [compare_of_family_ne (fun e => h ((family_eq_iff_cls da db).1 e))]
  have := dom_kind da
  have := dom_kind db
  have := cmpII_cases (kind a) (kind b)
  have := cmpII_cases (cls L a) (cls L b)
  omega

theorem cls_le_of_compare_le {L : Bool} {a b : CVal} (da : dom L a = true) (db : dom L b = true) (h : compare a b ≤ 0) :
    cls L a ≤ cls L b := by
  by_cases e : cls L a = cls L b
  · omega
  · rw [compare_diff_cls da db e, cmpII_le] at h
    exact h

/-! ### scalars: within ±2^53 the conversion to double is exact, so one key orders them all -/

theorem ikey_strict (x y : Int) (hx : -(2 ^ 53 : Int) ≤ x) (hy : y ≤ 2 ^ 53) (h : x < y) : ikey x < ikey y := by
  unfold ikey
  by_cases h1 : x < 0
  · by_cases h2 : y < 0
    · simp only [h1, h2, if_true]
      have := natToDouble_strict (-y).toNat (-x).toNat (by omega) (by omega)
      omega
    · simp only [h1, h2, if_true, if_false]
      have := natToDouble_pos (-x).toNat (by omega) (by omega)
      omega
  · have h2 : ¬ y < 0 := by omega
    simp only [h1, h2, if_false]
    have := natToDouble_strict x.toNat y.toNat (by omega) (by omega)
    omega

theorem skey_int {L : Bool} {a : CVal} (da : dom L a = true) (ia : isInt a = true) :
    skey a = ikey (ival a) ∧ -(2 ^ 53 : Int) ≤ ival a ∧ ival a ≤ 2 ^ 53 := by
  cases a <;> cases ia <;> simp only [dom, decide_eq_true_eq] at da
  · exact ⟨(conv_i64 _ (by omega) (by omega)).2, da⟩
  · refine ⟨?_, by simp only [ival]; omega, by simp only [ival]; omega⟩
    rw [skey, (conv_u64 _ (by omega)).2, ival, ikey, if_neg (by omega), Int.toNat_natCast]

theorem compare_scalar_dom {L : Bool} {a b : CVal} (h : family a = family b) (hs : (family a).scalar = true)
    (da : dom L a = true) (db : dom L b = true) : compare a b = cmpII (skey a) (skey b) := by
  rw [compare_scalar h hs (dom_finite L a da) (dom_finite L b db)]
  split
  next hi =>
    rw [Bool.and_eq_true] at hi
    obtain ⟨ka, la, ua⟩ := skey_int da hi.1
    obtain ⟨kb, lb, ub⟩ := skey_int db hi.2
    rw [ka, kb]
    have := cmpII_cases (ival a) (ival b)
    have := cmpII_cases (ikey (ival a)) (ikey (ival b))
    have s0 : ival a = ival b → ikey (ival a) = ikey (ival b) := congrArg ikey
    have s1 : ival a < ival b → ikey (ival a) < ikey (ival b) := ikey_strict _ _ la ub
    have s2 : ival b < ival a → ikey (ival b) < ikey (ival a) := ikey_strict _ _ lb ua
    omega
  next => rfl

theorem compare_le_trans_aux (L : Bool) : ∀ n : Nat, ∀ a b c : CVal, sizeOf a < n → sizeOf b < n → sizeOf c < n →
    dom L a = true → dom L b = true → dom L c = true → compare a b ≤ 0 → compare b c ≤ 0 → compare a c ≤ 0
  | 0, _, _, _, h, _, _, _, _, _, _, _ => absurd h (Nat.not_lt_zero _)
  | n + 1, a, b, c, hna, hnb, hnc, da, db, dc, h1, h2 => by
    have c1 := cls_le_of_compare_le da db h1
    have c2 := cls_le_of_compare_le db dc h2
    by_cases e : cls L a = cls L c
    · have fab : family a = family b := (family_eq_iff_cls da db).2 (by omega)
      have fbc : family b = family c := (family_eq_iff_cls db dc).2 (by omega)
      have sa := ofFamily_family a
      have sb := ofFamily_family b
      have sc := ofFamily_family c
      rw [← fab] at sb
      rw [← fbc, ← fab] at sc
      let S : CVal → Prop := fun u => dom L u = true ∧ sizeOf u < n
      have A : ∀ u v : CVal, S u → S v → compare v u = - compare u v :=
        fun u v hu hv => compare_antisymm_fin u v (dom_finite L u hu.1) (dom_finite L v hv.1)
      have T : ∀ u v w : CVal, S u → S v → S w → compare u v ≤ 0 → compare v w ≤ 0 → compare u w ≤ 0 :=
        fun u v w hu hv hw => compare_le_trans_aux L n u v w hu.2 hv.2 hw.2 hu.1 hv.1 hw.1
      cases hf : family a <;> rw [hf] at sa sb sc
      case null | bool | num | half =>
        have hs : (family a).scalar = true := by rw [hf]; rfl
        rw [compare_scalar_dom fab hs da db, cmpII_le] at h1
        rw [compare_scalar_dom fbc (fab ▸ hs) db dc, cmpII_le] at h2
        rw [compare_scalar_dom (fab.trans fbc) hs da dc, cmpII_le]
        omega
      case str | bstr =>
        obtain ⟨x, rfl⟩ := sa
        obtain ⟨y, rfl⟩ := sb
        obtain ⟨z, rfl⟩ := sc
        rw [compare] at h1 h2 ⊢
        exact bytesCmp_le_trans x y z h1 h2
      case arr =>
        obtain ⟨xs, rfl⟩ := sa
        obtain ⟨ys, rfl⟩ := sb
        obtain ⟨zs, rfl⟩ := sc
        have mem : ∀ {us : List CVal}, sizeOf (CVal.arr us) < n + 1 → dom L (.arr us) = true → ∀ u ∈ us, S u :=
          fun hn d u hu => ⟨domL_mem d u hu, by
            have := List.sizeOf_lt_of_mem hu
            simp only [CVal.arr.sizeOf_spec] at hn
            omega⟩
        rw [compare_arr] at h1 h2 ⊢
        exact vecCmp_le_trans compare S A T xs ys zs (mem hna da) (mem hnb db) (mem hnc dc) h1 h2
      case obj =>
        have mem : ∀ {a : CVal}, sizeOf a < n + 1 → dom L a = true → OfFamily .obj a → ∃ ms, a = .obj ms ∧ ∀ p ∈ ms, S p.2 := by
          intro a hn d s
          rcases s with rfl | ⟨ms, rfl⟩
          · cases d
          · refine ⟨ms, rfl, fun p hp => ⟨domM_mem d p hp, ?_⟩⟩
            have := sizeOf_snd_lt_of_mem hp
            simp only [CVal.obj.sizeOf_spec] at hn
            omega
        obtain ⟨ms, rfl, hms⟩ := mem hna da sa
        obtain ⟨ns, rfl, hns⟩ := mem hnb db sb
        obtain ⟨os, rfl, hos⟩ := mem hnc dc sc
        rw [compare_obj] at h1 h2 ⊢
        exact vecCmp_le_trans kvCmp (fun p => S p.2) (fun p q hp hq => kvCmp_antisymm p q (A p.2 q.2 hp hq))
          (fun p q r hp hq hr => kvCmp_le_trans p q r (T p.2 q.2 r.2 hp hq hr)) ms ns os hms hns hos h1 h2
    · rw [compare_diff_cls da dc e, cmpII_le]
      omega

theorem compare_le_trans (L : Bool) (a b c : CVal) (da : dom L a = true) (db : dom L b = true) (dc : dom L c = true)
    (h1 : compare a b ≤ 0) (h2 : compare b c ≤ 0) : compare a c ≤ 0 :=
  compare_le_trans_aux L (sizeOf a + sizeOf b + sizeOf c + 1) a b c (by omega) (by omega) (by omega) da db dc h1 h2

theorem compare_antisymm_dom {L : Bool} {a b : CVal} (da : dom L a = true) (db : dom L b = true) : compare b a = - compare a b :=
  compare_antisymm_fin a b (dom_finite L a da) (dom_finite L b db)

/-- With `b` between `a` and `c` in either direction: `a ≤ b ≤ c` gives `a ≤ c`, and `a ~ c` only if all three are equivalent. These
    are all the sign patterns a total preorder allows on three values, so every order fact about `==` and `<` on `dom L` is linear
    arithmetic over this and antisymmetry. -/
theorem compare_chain {L : Bool} {a b c : CVal} (da : dom L a = true) (db : dom L b = true) (dc : dom L c = true) :
    (compare a b ≤ 0 → compare b c ≤ 0 → compare a c ≤ 0 ∧ (compare a c = 0 → compare a b = 0 ∧ compare b c = 0)) ∧
    (0 ≤ compare a b → 0 ≤ compare b c → 0 ≤ compare a c ∧ (compare a c = 0 → compare a b = 0 ∧ compare b c = 0)) := by
  have := compare_antisymm_dom da db
  have := compare_antisymm_dom db dc
  have := compare_antisymm_dom da dc
  constructor
  · have := compare_le_trans L a b c da db dc
    have := compare_le_trans L c a b dc da db
    have := compare_le_trans L b c a db dc da
    omega
  · have := compare_le_trans L c b a dc db da
    have := compare_le_trans L a c b da dc db
    have := compare_le_trans L b a c db da dc
    omega

theorem opEq_iff (a b : CVal) : opEq a b = true ↔ compare a b = 0 := by simp [opEq]
theorem opLt_iff (a b : CVal) : opLt a b = true ↔ compare a b < 0 := by simp [opLt]
theorem opLt_false_iff (a b : CVal) : opLt a b = false ↔ 0 ≤ compare a b := by simp [opLt]

end Compare
end Model
end JV
