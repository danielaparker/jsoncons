/-
  JV.Proofs.PatchUndo — atomicity of `apply_patch` through its undo log.

  Each undo entry inverts the modification it was logged for as soon as it inverts the `finalStep` on the
  addressed container (`apply_undo_snoc`):
    * replace        ↦ replace with the original value  (exact, both object flavours, no invariant)
    * add_if_absent  ↦ remove                           (exact, both flavours; the location must not be
                                                         `-` on an array, which is why the code logs the
                                                         definite path)
    * remove         ↦ add of the removed value         (exact for sorted objects; for insertion-ordered
                                                         objects the member comes back last, see PatchOrdered)
  `Undoes o t' log t`: unwinding `log` (newest first) from `t'` succeeds entry by entry and leaves `t`.
  Every operation is inverted by the entries it logs (`applyOp_undoes`), up to a relation `R` that absorbs
  what "remove ↦ add" does not restore exactly (`RemInv`); the loop is atomic up to `R` (`applyLoop_atomic`).
-/
import JV.Proofs.PatchPointer
namespace JV
namespace Model
namespace Pointer
open Assoc

theorem wf_iff (d : JVal) : d.WF ↔ Level JVal.WF Sorted d := by
  cases d with
  | arr xs => simp only [JVal.WF, Level, wfList_iff]
  | obj ms => simp only [JVal.WF, Level, wfMembers_iff]
  | _ => simp [JVal.WF, Level]

theorem sorted_keysInv : KeysInv false (Sorted (α := JVal)) where
  replaceVal := fun _ _ hs => sorted_replaceVal hs
  insertOrAssign := fun k v hs => (insertOrAssign_map k v _ hs).1
  erase := fun _ hs => sorted_erase hs

theorem wf_docInv : DocInv false JVal.WF := .of_level wf_iff sorted_keysInv

/-- add_if_absent ↦ remove; `-` on an array is excluded (there `remove` reports index_exceeds) -/
theorem finalStep_add_undo (o : Bool) (v c : JVal) (k : Bytes) (hnd : c.isArray = true → isDash k = false)
    (hok : (finalStep o false (.addIfAbsent v) c k).1 = none) :
    finalStep o false .remove (finalStep o false (.addIfAbsent v) c k).2 k = (none, c) := by
  cases c with
  | arr xs =>
    have hd : isDash k = false := hnd rfl
    rw [finalStep_arr] at hok ⊢
    cases hi : decToIndex k with
    | none => simp [slot, hd, hi] at hok
    | some i =>
      rw [slot_of_index hd hi] at hok ⊢
      by_cases h1 : i > xs.length
      · simp [Final.isAdd, h1] at hok
      · -- the element went in at `i ≤ length`, so `i` is in range afterwards and `eraseIdx` takes it out again
        have hlen : (insertAt i v xs).length = xs.length + 1 := by simp [insertAt]; omega
        simp only [Final.isAdd, h1, if_true, if_false, Final.onList]
        rw [finalStep_arr, slot_of_index hd hi]
        simp [Final.isAdd, Final.onList, hlen, show ¬ i ≥ xs.length + 1 by omega, eraseIdx_insertAt v xs i (by omega)]
  | obj ms =>
    simp only [finalStep] at hok ⊢
    cases hfi : find k ms with
    | some x => rw [hfi] at hok; simp at hok
    | none =>
      simp [find_tryEmplace_self o hfi, erase_tryEmplace_absent o hfi]
  | null | bool _ | int _ | str _ => simp [finalStep] at hok

theorem finalStep_remove_undo {val c : JVal} {k : Bytes} (hw : c.WF) (hc : child c k = .ok val) :
    finalStep false false (.add val) (finalStep false false .remove c k).2 k = (none, c) := by
  rcases child_ok hc with ⟨xs, i, rfl, hd, hi, hx⟩ | ⟨ms, rfl, hf⟩
  · have hlt : i < xs.length := (List.getElem?_eq_some_iff.1 hx).1
    have hlen : (xs.eraseIdx i).length = xs.length - 1 := by simp [List.length_eraseIdx, hlt]
    rw [finalStep_arr, slot_of_index hd hi]
    simp only [Final.isAdd, Bool.false_eq_true, if_false, show ¬ i ≥ xs.length by omega, Final.onList]
    rw [finalStep_arr, slot_of_index hd hi]
    simp [Final.isAdd, Final.onList, hlen, show ¬ i > xs.length - 1 by omega, insertAt_eraseIdx hx]
  · have hs : Sorted ms := hw.1
    simp [finalStep, hf, insertOrAssign, find_erase_self hs, insertSorted_erase hs hf]

theorem apply_undo_snoc (o : Bool) (f g : Final) {t c : JVal} {loc : List Bytes} (k : Bytes) (hg : get t loc = .ok c)
    (hinv : finalStep o false g (finalStep o false f c k).2 k = (none, c)) :
    apply o false g (apply o false f t (loc ++ [k])).2 (loc ++ [k]) = (none, t) := by
  rw [apply_snoc_ok o f k hg, apply_snoc_ok o g k (get_put loc _ hg), hinv, put_put loc _ _ hg, put_same loc hg]

theorem apply_replace_undo (o : Bool) (t : JVal) (p : List Bytes) (v orig : JVal) (hg : get t p = .ok orig) :
    apply o false (.replace orig) (apply o false (.replace v) t p).2 p = (none, t) := by
  rw [apply_replace_put o v p hg, apply_replace_put o orig p (get_put p v hg), put_put p v orig hg, put_same p hg]

def Definite (t : JVal) (p : List Bytes) : Prop :=
  ∀ c, get t p.dropLast = .ok c → c.isArray = true → p.getLast? ≠ some [45]

theorem apply_add_undo (o : Bool) (t : JVal) (p : List Bytes) (v : JVal) (hne : p ≠ []) (hdef : Definite t p)
    (hok : (apply o false (.addIfAbsent v) t p).1 = none) :
    apply o false .remove (apply o false (.addIfAbsent v) t p).2 p = (none, t) := by
  rcases List.eq_nil_or_concat p with rfl | ⟨loc, k, rfl⟩
  · exact absurd rfl hne
  · rw [List.concat_eq_append] at hok hdef ⊢
    rw [apply_snoc] at hok
    cases hl : get t loc with
    | error e => simp [hl] at hok
    | ok c =>
      rw [hl] at hok
      exact apply_undo_snoc o _ _ k hl (finalStep_add_undo o v c k
        (fun hc => isDash_false_of_ne (by simpa using hdef c (by simpa using hl) hc)) hok)

theorem apply_remove_undo_sorted (t : JVal) (p : List Bytes) (val : JVal) (hw : t.WF) (hg : get t p = .ok val) :
    apply false false (.add val) (apply false false .remove t p).2 p = (none, t) := by
  rcases List.eq_nil_or_concat p with rfl | ⟨loc, k, rfl⟩
  · rw [get_nil] at hg
    simp [apply, Except.ok.inj hg]
  · rw [List.concat_eq_append, get_snoc] at hg
    rw [List.concat_eq_append]
    cases hl : get t loc with
    | error e => simp [hl] at hg
    | ok c =>
      rw [hl] at hg
      exact apply_undo_snoc false _ _ k hl (finalStep_remove_undo (wf_docInv.get loc hw hl) hg)

end Pointer

namespace Patch
open Assoc Pointer

theorem addLike_cases {o : Bool} {t : JVal} {np : List Bytes} {v : JVal} {P : Bool × JVal × List Undo → Prop}
    (root : np = [] → P (true, v, [.replace [] t]))
    (inserted : np ≠ [] → (Pointer.apply o false (.addIfAbsent v) t np).1 = none →
      P (true, (Pointer.apply o false (.addIfAbsent v) t np).2, [.remove np]))
    (replaced : ∀ orig, np ≠ [] → (Pointer.apply o false (.addIfAbsent v) t np).1 ≠ none → get t np = .ok orig →
      (Pointer.apply o false (.replace v) t np).1 = none →
      P (true, (Pointer.apply o false (.replace v) t np).2, [.replace np orig]))
    (failed : np ≠ [] → (Pointer.apply o false (.addIfAbsent v) t np).1 ≠ none →
      ((∀ x, get t np ≠ .ok x) ∨ (Pointer.apply o false (.replace v) t np).1 ≠ none) → P (false, t, [])) :
    P (addLike o t np v) := by
  unfold addLike
  by_cases hn : np = []
  · subst hn
    simpa [Pointer.get, Pointer.apply] using root rfl
  · simp only [hn, if_false]
    cases hi : (Pointer.apply o false (Final.addIfAbsent v) t np).1 with
    | none => exact inserted hn hi
    | some e =>
      have hi' : (Pointer.apply o false (Final.addIfAbsent v) t np).1 ≠ none := by simp [hi]
      simp only [apply_err_doc o (Final.addIfAbsent v) t np hi']
      cases hg : Pointer.get t np with
      | error e => exact failed hn hi' (.inl fun x hx => by rw [hg] at hx; cases hx)
      | ok orig =>
        simp only []
        cases hr : (Pointer.apply o false (Final.replace v) t np).1 with
        | none => exact replaced orig hn hi' hg hr
        | some e =>
          have hr' : (Pointer.apply o false (Final.replace v) t np).1 ≠ none := by simp [hr]
          simp only [apply_err_doc o _ t np hr']
          exact failed hn hi' (.inr hr')

theorem addLike_fail (o : Bool) (t : JVal) (np : List Bytes) (v : JVal)
    (h : (addLike o t np v).1 = false) : (addLike o t np v).2 = (t, []) := by
  revert h
  exact addLike_cases (P := fun r => r.1 = false → r.2 = (t, [])) (fun _ => by simp) (fun _ _ => by simp)
    (fun _ _ _ _ _ => by simp) (fun _ _ _ _ => rfl)

theorem addLike_fail_log (o : Bool) (t : JVal) (np : List Bytes) (v : JVal)
    (h : (addLike o t np v).1 = false) : (addLike o t np v).2.2 = [] :=
  congrArg Prod.snd (addLike_fail o t np v h)

theorem opTest_snd (t : JVal) (loc : List Bytes) (om : List (Bytes × JVal)) : (opTest t loc om).2 = (t, []) := by
  unfold opTest
  repeat' split
  all_goals rfl

/-! ### what each operation returns: a failing operation has left `t` and logged nothing, except `move` failing
    in its second half -/

section
variable {o : Bool} {t : JVal} {loc : List Bytes} {om : List (Bytes × JVal)} {P : OpResult → Prop}

theorem opAdd_cases (failed : ∀ e, P (some e, t, []))
    (added : ∀ v, find sValue om = some v → (addLike o t (definitePath t loc) v).1 = true →
      P (none, (addLike o t (definitePath t loc) v).2)) :
    P (opAdd o t loc om) := by
  unfold opAdd
  split
  · exact failed _
  · next v hv =>
    cases ha : (addLike o t (definitePath t loc) v).1 with
    | true => simp only [ha, if_true]; exact added v hv ha
    | false =>
      simp only [ha, Bool.false_eq_true, if_false, addLike_fail o t _ v ha]
      exact failed _

theorem opRemove_cases (failed : ∀ e, P (some e, t, []))
    (removed : ∀ val, get t loc = .ok val → (Pointer.apply o false .remove t loc).1 = none →
      P (none, (Pointer.apply o false .remove t loc).2, [.add loc val])) :
    P (opRemove o t loc) := by
  unfold opRemove
  split
  · exact failed _
  · next val hg =>
    cases hr : (Pointer.apply o false Final.remove t loc).1 with
    | some e =>
      simp only [hr, apply_err_doc o Final.remove t loc (by simp [hr])]
      exact failed _
    | none => simp only [hr]; exact removed val hg hr

theorem opReplace_cases (failed : ∀ e, P (some e, t, []))
    (replaced : ∀ val v, get t loc = .ok val → find sValue om = some v →
      (Pointer.apply o false (.replace v) t loc).1 = none →
      P (none, (Pointer.apply o false (.replace v) t loc).2, [.replace loc val])) :
    P (opReplace o t loc om) := by
  unfold opReplace
  split
  · exact failed _
  · next val hg =>
    split
    · exact failed _
    · next v hv =>
      cases hr : (Pointer.apply o false (Final.replace v) t loc).1 with
      | some e =>
        simp only [hr, apply_err_doc o (Final.replace v) t loc (by simp [hr])]
        exact failed _
      | none => simp only [hr]; exact replaced val v hg hv hr

theorem opCopy_cases (failed : ∀ e, P (some e, t, []))
    (copied : ∀ from_ fp val, (find sFrom om).bind strOf = some from_ → parse from_ = .ok fp → get t fp = .ok val →
      (addLike o t (definitePath t loc) val).1 = true → P (none, (addLike o t (definitePath t loc) val).2)) :
    P (opCopy o t loc om) := by
  unfold opCopy
  split
  · exact failed _
  · next from_ hf =>
    unfold getStr
    cases hp : parse from_ with
    | error e => exact failed _
    | ok fp =>
      simp only []
      cases hg : get t fp with
      | error e => exact failed _
      | ok val =>
        simp only []
        cases ha : (addLike o t (definitePath t loc) val).1 with
        | true => simp only [if_true]; exact copied from_ fp val hf hp hg ha
        | false =>
          simp only [Bool.false_eq_true, if_false, addLike_fail o t _ val ha]
          exact failed _

theorem opMove_cases (failed : ∀ e, P (some e, t, []))
    (moved : ∀ from_ fp val, (find sFrom om).bind strOf = some from_ → parse from_ = .ok fp → get t fp = .ok val →
      (Pointer.apply o false .remove t fp).1 = none →
      let t1 := (Pointer.apply o false .remove t fp).2
      let a := addLike o t1 (definitePath t1 loc) val
      P (if a.1 then (none, a.2.1, a.2.2 ++ [.add fp val]) else (some .copyFailed, t1, [.add fp val]))) :
    P (opMove o t loc om) := by
  unfold opMove
  split
  · exact failed _
  · next from_ hf =>
    cases hp : parse from_ with
    | error e => exact failed _
    | ok fp =>
      simp only []
      cases hg : get t fp with
      | error e => exact failed _
      | ok val =>
        simp only []
        cases hr : (Pointer.apply o false Final.remove t fp).1 with
        | some e =>
          simp only [apply_err_doc o Final.remove t fp (by simp [hr])]
          exact failed _
        | none =>
          have := moved from_ fp val hf hp hg hr
          simp only []
          cases ha : (addLike o (Pointer.apply o false Final.remove t fp).2
              (definitePath (Pointer.apply o false Final.remove t fp).2 loc) val).1 with
          | true => simpa only [ha, if_true] using this
          | false => simpa only [ha, Bool.false_eq_true, if_false, addLike_fail o _ _ val ha] using this

end

def Head (operation : JVal) (om : List (Bytes × JVal)) (op : Bytes) (loc : List Bytes) : Prop :=
  operation = .obj om ∧ (find sOp om).bind strOf = some op ∧
    ∃ path, (find sPath om).bind strOf = some path ∧ parse path = .ok loc

theorem applyOp_cases {o : Bool} {t operation : JVal} {P : OpResult → Prop}
    (invalid : (∀ om op loc, Head operation om op loc → op ∉ [sTest, sAdd, sRemove, sReplace, sMove, sCopy]) →
      P (some .invalidPatch, t, []))
    (test : ∀ om loc, Head operation om sTest loc → P (opTest t loc om))
    (add : ∀ om loc, Head operation om sAdd loc → P (opAdd o t loc om))
    (remove : ∀ om loc, Head operation om sRemove loc → P (opRemove o t loc))
    (replace : ∀ om loc, Head operation om sReplace loc → P (opReplace o t loc om))
    (move : ∀ om loc, Head operation om sMove loc → P (opMove o t loc om))
    (copy : ∀ om loc, Head operation om sCopy loc → P (opCopy o t loc om)) :
    P (applyOp o t operation) := by
  cases operation with
  | obj om =>
    cases h1 : (find sOp om).bind strOf with
    | none =>
      simp only [applyOp, h1]
      exact invalid fun _ _ _ hd => by obtain ⟨e, h, _⟩ := hd; cases e; rw [h1] at h; cases h
    | some op =>
      cases h2 : (find sPath om).bind strOf with
      | none =>
        simp only [applyOp, h1, h2]
        exact invalid fun _ _ _ hd => by obtain ⟨e, _, _, h, _⟩ := hd; cases e; rw [h2] at h; cases h
      | some path =>
        cases h3 : parse path with
        | error e =>
          simp only [applyOp, h1, h2, h3]
          exact invalid fun _ _ _ hd => by
            obtain ⟨e, _, _, h, hp⟩ := hd; cases e; rw [h2] at h; cases h; rw [h3] at hp; cases hp
        | ok loc =>
          have hd : Head (.obj om) om op loc := ⟨rfl, h1, path, h2, h3⟩
          simp only [applyOp, h1, h2, h3]
          by_cases c1 : op = sTest
          · subst c1; rw [if_pos rfl]; exact test om loc hd
          rw [if_neg c1]
          by_cases c2 : op = sAdd
          · subst c2; rw [if_pos rfl]; exact add om loc hd
          rw [if_neg c2]
          by_cases c3 : op = sRemove
          · subst c3; rw [if_pos rfl]; exact remove om loc hd
          rw [if_neg c3]
          by_cases c4 : op = sReplace
          · subst c4; rw [if_pos rfl]; exact replace om loc hd
          rw [if_neg c4]
          by_cases c5 : op = sMove
          · subst c5; rw [if_pos rfl]; exact move om loc hd
          rw [if_neg c5]
          by_cases c6 : op = sCopy
          · subst c6; rw [if_pos rfl]; exact copy om loc hd
          rw [if_neg c6]
          exact invalid fun _ _ _ hd' => by
            obtain ⟨e, h, _⟩ := hd'; cases e; rw [h1] at h; cases h
            simp [c1, c2, c3, c4, c5, c6]
  | null | bool _ | int _ | str _ | arr _ => exact invalid fun _ _ _ hd => by cases hd.1

def Undo.final : Undo → Final
  | .add _ v => .add v
  | .remove _ => .remove
  | .replace _ v => .replace v

def Undo.path : Undo → List Bytes
  | .add p _ | .remove p | .replace p _ => p

theorem unwind_cons (o : Bool) (t : JVal) (u : Undo) (us : List Undo) :
    unwind o t (u :: us) = match (Pointer.apply o false u.final t u.path).1 with
      | some _ => (Pointer.apply o false u.final t u.path).2
      | none => unwind o (Pointer.apply o false u.final t u.path).2 us := by
  cases u <;> rfl

def Undoes (o : Bool) (t' : JVal) (log : List Undo) (t : JVal) : Prop :=
  ∀ s, unwind o t' (log ++ s) = unwind o t s

theorem undoes_nil (o : Bool) (t : JVal) : Undoes o t [] t := fun _ => rfl

theorem undoes_append {o : Bool} {t2 t1 t0 : JVal} {l2 l1 : List Undo}
    (h2 : Undoes o t2 l2 t1) (h1 : Undoes o t1 l1 t0) : Undoes o t2 (l2 ++ l1) t0 := by
  intro s; rw [List.append_assoc, h2, h1]

theorem undoes_one {o : Bool} {t' t : JVal} {u : Undo}
    (h : Pointer.apply o false u.final t' u.path = (none, t)) : Undoes o t' [u] t := by
  intro s; simp [unwind_cons, h]

/-- the outcome `r` of an operation on `t`: unwinding its log from its document leaves `t`, up to `R` -/
def UndoesR (R : JVal → JVal → Prop) (o : Bool) (t : JVal) (r : OpResult) : Prop :=
  ∃ t'', R t'' t ∧ Undoes o r.2.1 r.2.2 t''

theorem UndoesR.ofEq {R : JVal → JVal → Prop} (hR : ∀ a, R a a) {o : Bool} {t : JVal} {r : OpResult}
    (h : Undoes o r.2.1 r.2.2 t) : UndoesR R o t r := ⟨t, hR t, h⟩

def RemInv (o : Bool) (R : JVal → JVal → Prop) (t : JVal) : Prop :=
  ∀ loc val, get t loc = .ok val →
    ∃ t'', R t'' t ∧ Pointer.apply o false (.add val) (Pointer.apply o false .remove t loc).2 loc = (none, t'')

theorem definitePath_definite (t : JVal) (loc : List Bytes) : Definite t (definitePath t loc) := by
  fun_cases definitePath t loc
  all_goals intro c hc harr
  · next h => simp [h]
  · next h hne => simpa [h] using hne
  · simp [natDigits_ne_dash]
  · next hno =>
    cases c with
    | arr xs => exact absurd hc (hno xs)
    | _ => simp [JVal.isArray] at harr

theorem addLike_undoes (o : Bool) (t : JVal) (np : List Bytes) (v : JVal) (hdef : Definite t np) :
    Undoes o (addLike o t np v).2.1 (addLike o t np v).2.2 t :=
  addLike_cases (P := fun r => Undoes o r.2.1 r.2.2 t)
    (fun _ => undoes_one (by simp [Pointer.apply, Undo.final, Undo.path]))
    (fun hn hi => undoes_one (apply_add_undo o t np v hn hdef hi))
    (fun orig _ _ hg _ => undoes_one (apply_replace_undo o t np v orig hg))
    (fun _ _ _ => undoes_nil o t)

def noRemoval (operation : JVal) : Bool :=
  match operation with
  | .obj om =>
    match (find sOp om).bind strOf with
    | some op => op != sRemove && op != sMove
    | none => true
  | _ => true

/-- `hri` is asked only when an undo entry was logged: an operation that fails with an empty log needs nothing of removals -/
theorem applyOp_undoes (R : JVal → JVal → Prop) (hR : ∀ a, R a a) (o : Bool) (t operation : JVal)
    (hri : (applyOp o t operation).2.2 ≠ [] → noRemoval operation = true ∨ RemInv o R t) :
    UndoesR R o t (applyOp o t operation) := by
  have failed : ∀ e, UndoesR R o t (some e, t, []) := fun _ => .ofEq hR (undoes_nil o t)
  revert hri
  refine applyOp_cases (P := fun r => (r.2.2 ≠ [] → noRemoval operation = true ∨ RemInv o R t) → UndoesR R o t r)
    ?_ ?_ ?_ ?_ ?_ ?_ ?_
  · exact fun _ _ => failed _
  · intro om loc _ _
    exact .ofEq hR (by rw [opTest_snd]; exact undoes_nil o t)
  · intro om loc _ _
    exact opAdd_cases failed fun v _ _ => .ofEq hR (addLike_undoes o t _ v (definitePath_definite t loc))
  · intro om loc hd
    have hrm : noRemoval operation ≠ true := by simp [hd.1, noRemoval, hd.2.1]
    refine opRemove_cases (P := fun r => (r.2.2 ≠ [] → noRemoval operation = true ∨ RemInv o R t) → UndoesR R o t r)
      (fun e _ => failed e) fun val hg _ hri => ?_
    obtain ⟨t'', hrel, happ⟩ := (hri (by simp)).resolve_left hrm loc val hg
    exact ⟨t'', hrel, undoes_one happ⟩
  · intro om loc _ _
    exact opReplace_cases failed fun val v hg _ _ => .ofEq hR (undoes_one (apply_replace_undo o t loc v val hg))
  · intro om loc hd
    have hrm : noRemoval operation ≠ true := by simp [hd.1, noRemoval, hd.2.1]
    refine opMove_cases (P := fun r => (r.2.2 ≠ [] → noRemoval operation = true ∨ RemInv o R t) → UndoesR R o t r)
      (fun e _ => failed e) fun from_ fp val _ _ hg _ => ?_
    intro t1 a hri
    obtain ⟨t'', hrel, happ⟩ := (hri (by split <;> simp)).resolve_left hrm fp val hg
    refine ⟨t'', hrel, ?_⟩
    split
    · exact undoes_append (addLike_undoes o t1 _ val (definitePath_definite t1 loc)) (undoes_one happ)
    · exact undoes_one happ
  · intro om loc _ _
    exact opCopy_cases failed fun _ _ val _ _ _ _ => .ofEq hR (addLike_undoes o t _ val (definitePath_definite t loc))

/-- `Inv` is kept by the document, `SOK` by the pending undo stack; `hcongr`: unwinding one stack from `R`-related documents keeps them related -/
theorem applyLoop_atomic (o : Bool) (R : JVal → JVal → Prop) (Inv : JVal → Prop) (SOK : List Undo → Prop)
    (hRt : ∀ a b c, R a b → R b c → R a c)
    (hcongr : ∀ a b s, R a b → Inv b → SOK s → R (unwind o a s) (unwind o b s))
    (d : JVal) :
    ∀ (ops : List JVal) (t : JVal) (stack : List Undo),
      (∀ op ∈ ops, ∀ t stack, Inv t → SOK stack →
         UndoesR R o t (applyOp o t op) ∧ Inv (applyOp o t op).2.1 ∧ SOK ((applyOp o t op).2.2 ++ stack)) →
      Inv t → SOK stack → R (unwind o t stack) d →
      (applyLoop o t ops stack).1 ≠ none → R (applyLoop o t ops stack).2 d
  | [], t, stack, _, _, _, _, h => by simp [applyLoop] at h
  | op :: ops, t, stack, hstep, hi, hs, hr, h => by
    obtain ⟨⟨t'', hrel, hu⟩, hi', hs'⟩ := hstep op (by simp) t stack hi hs
    have hnew : R (unwind o (applyOp o t op).2.1 ((applyOp o t op).2.2 ++ stack)) d := by
      rw [hu stack]
      exact hRt _ _ _ (hcongr t'' t stack hrel hi hs) hr
    simp only [applyLoop] at h ⊢
    cases he : (applyOp o t op).1 with
    | some e => exact hnew
    | none =>
      simp only [he] at h ⊢
      exact applyLoop_atomic o R Inv SOK hRt hcongr d ops _ _
        (fun op' hm => hstep op' (by simp [hm])) hi' hs' hnew h

def LogVal (P : JVal → Prop) (log : List Undo) : Prop := ∀ u ∈ log, u.final.Val P

theorem logVal_nil {P : JVal → Prop} : LogVal P [] := by intro u h; simp at h

theorem logVal_append {P : JVal → Prop} {a b : List Undo} (ha : LogVal P a) (hb : LogVal P b) : LogVal P (a ++ b) := by
  intro u h
  rcases List.mem_append.1 h with h | h
  · exact ha u h
  · exact hb u h

theorem logVal_one {P : JVal → Prop} {u : Undo} (h : u.final.Val P) : LogVal P [u] :=
  fun _ hu => List.mem_singleton.1 hu ▸ h

/-- the document of an outcome and the values in its log satisfy `P` -/
def Keeps (P : JVal → Prop) {α : Type} (r : α × JVal × List Undo) : Prop := P r.2.1 ∧ LogVal P r.2.2

section inv
variable {o : Bool} {P : JVal → Prop} (hP : DocInv o P)
include hP

theorem addLike_inv (t : JVal) (np : List Bytes) (v : JVal) (ht : P t) (hv : P v) :
    Keeps P (addLike o t np v) :=
  addLike_cases
    (fun _ => ⟨hv, logVal_one ht⟩)
    (fun _ _ => ⟨hP.apply (f := .addIfAbsent v) hv ht np, logVal_one trivial⟩)
    (fun _ _ _ hg _ => ⟨hP.apply (f := .replace v) hv ht np, logVal_one (hP.get np ht hg)⟩)
    (fun _ _ _ => ⟨ht, logVal_nil⟩)

theorem applyOp_inv (t operation : JVal) (ht : P t)
    (hv : ∀ om v, operation = .obj om → find sValue om = some v → P v) :
    Keeps P (applyOp o t operation) := by
  have failed : ∀ e : PatchErr, Keeps P (some e, t, ([] : List Undo)) := fun _ => ⟨ht, logVal_nil⟩
  refine applyOp_cases (fun _ => failed _) ?_ ?_ ?_ ?_ ?_ ?_
  · intro om loc _
    exact ⟨by rw [opTest_snd]; exact ht, by rw [opTest_snd]; exact logVal_nil⟩
  · intro om loc hd
    exact opAdd_cases failed fun v hf _ => addLike_inv hP t _ v ht (hv om v hd.1 hf)
  · intro om loc _
    exact opRemove_cases failed fun val hg _ =>
      ⟨hP.apply (f := .remove) trivial ht loc, logVal_one (hP.get loc ht hg)⟩
  · intro om loc hd
    exact opReplace_cases failed fun val v hg hf _ =>
      ⟨hP.apply (f := .replace v) (hv om v hd.1 hf) ht loc, logVal_one (hP.get loc ht hg)⟩
  · intro om loc _
    refine opMove_cases failed fun _ fp val _ _ hg _ => ?_
    intro t1 a
    have hval := hP.get fp ht hg
    have h1 : P t1 := hP.apply (f := .remove) trivial ht fp
    have h2 := addLike_inv hP t1 (definitePath t1 loc) val h1 hval
    cases ha : a.1 with
    | true => exact ⟨h2.1, logVal_append h2.2 (logVal_one hval)⟩
    | false => exact ⟨h1, logVal_one hval⟩
  · intro om loc _
    exact opCopy_cases failed fun _ fp val _ _ hg _ => addLike_inv hP t _ val ht (hP.get fp ht hg)

end inv

def OpValWF (operation : JVal) : Prop :=
  ∀ om v, operation = .obj om → find sValue om = some v → v.WF

theorem opValWF_of_wf {operation : JVal} (h : operation.WF) : OpValWF operation := by
  intro om v he hf
  subst he
  exact wf_of_find h.2 hf

theorem applyOp_wf (t operation : JVal) (hw : t.WF) (hv : OpValWF operation) : (applyOp false t operation).2.1.WF :=
  (applyOp_inv wf_docInv t operation hw hv).1

theorem remInv_sorted (t : JVal) (hw : t.WF) : RemInv false Eq t :=
  fun loc val hg => ⟨t, rfl, apply_remove_undo_sorted t loc val hw hg⟩

theorem applyLoop_atomic_sorted (d : JVal) (ops : List JVal) (t : JVal) (stack : List Undo)
    (hops : ∀ op ∈ ops, OpValWF op) (hw : t.WF) (hr : unwind false t stack = d)
    (h : (applyLoop false t ops stack).1 ≠ none) : (applyLoop false t ops stack).2 = d := by
  refine applyLoop_atomic false Eq JVal.WF (fun _ => True) (fun _ _ _ h1 h2 => h1.trans h2)
    (fun a b s hab _ _ => by rw [hab]) d ops t stack ?_ hw trivial hr h
  intro op hm t stack hw _
  exact ⟨applyOp_undoes Eq (fun _ => rfl) false t op (fun _ => Or.inr (remInv_sorted t hw)),
    applyOp_wf t op hw (hops op hm), trivial⟩

theorem applyLoop_atomic_noRemoval (o : Bool) (d : JVal) (ops : List JVal) (t : JVal) (stack : List Undo)
    (hops : ∀ op ∈ ops, noRemoval op = true) (hr : unwind o t stack = d)
    (h : (applyLoop o t ops stack).1 ≠ none) : (applyLoop o t ops stack).2 = d := by
  refine applyLoop_atomic o Eq (fun _ => True) (fun _ => True) (fun _ _ _ h1 h2 => h1.trans h2)
    (fun a b s hab _ _ => by rw [hab]) d ops t stack ?_ trivial trivial hr h
  intro op hm t stack _ _
  exact ⟨applyOp_undoes Eq (fun _ => rfl) o t op (fun _ => Or.inl (hops op hm)), trivial, trivial⟩

end Patch
end Model
end JV
