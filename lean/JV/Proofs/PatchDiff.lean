/-
  JV.Proofs.PatchDiff — the diff law of `from_diff` for sorted objects: applying `from_diff(a, b)` to `a`
  succeeds and yields `b`.

  `runOps` is the loop of `apply_patch` when nothing fails.  Each of the three operations `from_diff` emits
  (replace / remove / add) rewrites, in terms of `put`, exactly the sub-document its path addresses;
  `fromDiff_run`: the patch produced for the sub-document at `loc` rewrites exactly that sub-document of any
  host document.
-/
import JV.Proofs.PatchUndo
import JV.Proofs.PointerText
namespace JV
namespace Model
namespace Pointer
open Assoc

theorem toString_snoc (loc : List Bytes) (k : Bytes) :
    toString loc ++ 47 :: escapeToken k = toString (loc ++ [k]) := by
  rw [toString_append]; simp [toString]

theorem toString_snoc_idx (loc : List Bytes) (i : Nat) :
    toString loc ++ 47 :: natDigits i = toString (loc ++ [natDigits i]) := by
  rw [← toString_snoc, escapeToken_natDigits i]

end Pointer

namespace Patch
open Assoc Pointer

def runOps : JVal → List JVal → Option JVal
  | d, [] => some d
  | d, op :: ops =>
    match (applyOp false d op).1 with
    | some _ => none
    | none => runOps (applyOp false d op).2.1 ops

theorem runOps_append : ∀ (ops1 : List JVal) (d : JVal) (ops2 : List JVal),
    runOps d (ops1 ++ ops2) = (runOps d ops1).bind (fun d1 => runOps d1 ops2)
  | [], d, ops2 => rfl
  | op :: ops1, d, ops2 => by
    simp only [List.cons_append, runOps]
    cases h : (applyOp false d op).1 with
    | some e => rfl
    | none => exact runOps_append ops1 _ ops2

theorem runOps_applyLoop : ∀ (ops : List JVal) (d d2 : JVal) (stk : List Undo), runOps d ops = some d2 →
    applyLoop false d ops stk = (none, d2)
  | [], d, d2, stk, h => by
    simp only [runOps, Option.some.injEq] at h
    simp [applyLoop, h]
  | op :: ops, d, d2, stk, h => by
    simp only [runOps] at h
    simp only [applyLoop]
    cases he : (applyOp false d op).1 with
    | some e => rw [he] at h; simp at h
    | none =>
      rw [he] at h
      exact runOps_applyLoop ops _ d2 _ h

theorem opObj_some (op path : Bytes) (v : JVal) :
    opObj false op path (some v) = .obj [(sOp, .str op), (sPath, .str path), (sValue, v)] := by
  simp [opObj, insertOrAssign, find, insertSorted, keyLt, sOp, sPath, sValue]

theorem opObj_none (op path : Bytes) :
    opObj false op path none = .obj [(sOp, .str op), (sPath, .str path)] := by
  simp [opObj, insertOrAssign, find, insertSorted, keyLt, sOp, sPath]

theorem find3_op (a b c : JVal) : find sOp [(sOp, a), (sPath, b), (sValue, c)] = some a := by simp [find]
theorem find3_path (a b c : JVal) : find sPath [(sOp, a), (sPath, b), (sValue, c)] = some b := by
  simp [find, sOp, sPath]
theorem find3_value (a b c : JVal) : find sValue [(sOp, a), (sPath, b), (sValue, c)] = some c := by
  simp [find, sOp, sPath, sValue]
theorem find2_op (a b : JVal) : find sOp [(sOp, a), (sPath, b)] = some a := by simp [find]
theorem find2_path (a b : JVal) : find sPath [(sOp, a), (sPath, b)] = some b := by
  simp [find, sOp, sPath]

/-- `ops` turns the sub-document `s` at `loc` into `t`, whatever the host document -/
def Rewrites (loc : List Bytes) (ops : List JVal) (s t : JVal) : Prop :=
  ∀ d, get d loc = .ok s → runOps d ops = some (put d loc t)

theorem Rewrites.nil (loc : List Bytes) (s : JVal) : Rewrites loc [] s s := fun d h => by
  rw [put_same loc h]; rfl

theorem Rewrites.append {loc : List Bytes} {ops1 ops2 : List JVal} {s x t : JVal} (h1 : Rewrites loc ops1 s x)
    (h2 : Rewrites loc ops2 x t) : Rewrites loc (ops1 ++ ops2) s t := by
  intro d h
  rw [runOps_append, h1 d h, Option.bind_some, h2 _ (get_put loc x h), put_put loc _ _ h]

theorem Rewrites.cons {loc : List Bytes} {op : JVal} {ops : List JVal} {s x t : JVal} (h1 : Rewrites loc [op] s x)
    (h2 : Rewrites loc ops x t) : Rewrites loc (op :: ops) s t :=
  h1.append h2

theorem Rewrites.child {loc : List Bytes} {k : Bytes} {ops : List JVal} {c s t : JVal} (hc : child c k = .ok s)
    (h : Rewrites (loc ++ [k]) ops s t) : Rewrites loc ops c (setChild c k t) := by
  intro d hd
  have := h d (by rw [get_snoc, hd]; exact hc)
  rwa [put_append loc _ _ hd, put_cons_ok hc, put_nil] at this

theorem Rewrites.unless_eq {loc : List Bytes} {ops : List JVal} {s t : JVal} (h : Rewrites loc ops s t) :
    Rewrites loc (if (s == t) = true then [] else ops) s t := by
  by_cases hb : (s == t) = true
  · rw [if_pos hb, ← JVal.eq_of_beq s t hb]; exact .nil loc s
  · rw [if_neg hb]; exact h

theorem op_replace (loc : List Bytes) (s t : JVal) :
    Rewrites loc [opObj false sReplace (Pointer.toString loc) (some t)] s t := by
  intro d h
  have e1 : sReplace ≠ sTest := by decide
  have e2 : sReplace ≠ sAdd := by decide
  have e3 : sReplace ≠ sRemove := by decide
  rw [opObj_some]
  simp only [runOps, applyOp, find3_op, find3_path, Option.bind, strOf, parse_toString, e1, e2, e3, if_false, if_true,
    opReplace, h, find3_value, apply_replace_put false t loc h]

theorem op_remove (loc : List Bytes) (k : Bytes) {c c' v : JVal} (hk : child c k = .ok v)
    (hfs : finalStep false false .remove c k = (none, c')) :
    Rewrites loc [opObj false sRemove (Pointer.toString (loc ++ [k])) none] c c' := by
  intro d h
  have e1 : sRemove ≠ sTest := by decide
  have e2 : sRemove ≠ sAdd := by decide
  have hg : get d (loc ++ [k]) = .ok v := by rw [get_snoc, h]; exact hk
  rw [opObj_none]
  simp only [runOps, applyOp, find2_op, find2_path, Option.bind, strOf, parse_toString, e1, e2, if_false, if_true,
    opRemove, hg, apply_snoc_ok false .remove k h, hfs]

theorem definitePath_snoc (d c : JVal) (loc : List Bytes) (k : Bytes) (h : get d loc = .ok c)
    (hk : k ≠ [45] ∨ c.isArray = false) : definitePath d (loc ++ [k]) = loc ++ [k] := by
  simp only [definitePath, List.getLast?_append, List.getLast?_singleton, Option.some_or]
  by_cases e : k = [45]
  · have hc : c.isArray = false := by
      rcases hk with hk | hk
      · exact absurd e hk
      · exact hk
    subst e
    simp only [ne_eq, not_true_eq_false, if_false, List.dropLast_concat, h]
    cases c <;> simp_all [JVal.isArray]
  · simp [e]

theorem op_add (loc : List Bytes) (k : Bytes) {c c' : JVal} (v : JVal) (hk : k ≠ [45] ∨ c.isArray = false)
    (hfs : finalStep false false (.addIfAbsent v) c k = (none, c')) :
    Rewrites loc [opObj false sAdd (Pointer.toString (loc ++ [k])) (some v)] c c' := by
  intro d h
  have e1 : sAdd ≠ sTest := by decide
  have hne : loc ++ [k] ≠ [] := by simp
  rw [opObj_some]
  simp only [runOps, applyOp, find3_op, find3_path, Option.bind, strOf, parse_toString, e1, if_false, if_true,
    opAdd, find3_value, definitePath_snoc d c loc k h hk, addLike, hne,
    apply_snoc_ok false (.addIfAbsent v) k h, hfs]

theorem op_remove_obj (loc : List Bytes) (ms : List (Bytes × JVal)) (k : Bytes) (v : JVal) (hf : find k ms = some v) :
    Rewrites loc [opObj false sRemove (Pointer.toString loc ++ 47 :: escapeToken k) none] (.obj ms) (.obj (erase k ms)) := by
  rw [toString_snoc]
  exact op_remove loc k (child_obj hf) (by simp [finalStep, hf])

theorem op_remove_arr (loc : List Bytes) (xs : List JVal) (i : Nat) (hi : i < xs.length) (h64 : i < 2 ^ 64) :
    Rewrites loc [opObj false sRemove (Pointer.toString loc ++ 47 :: natDigits i) none] (.arr xs) (.arr (xs.eraseIdx i)) := by
  rw [toString_snoc_idx loc i]
  have hd := isDash_natDigits i
  have hdi := decToIndex_natDigits i h64
  exact op_remove loc _ (child_arr hd hdi (List.getElem?_eq_getElem hi))
    (by simp [finalStep, hd, hdi, show ¬ i ≥ xs.length by omega])

theorem op_add_obj (loc : List Bytes) (ms : List (Bytes × JVal)) (k : Bytes) (v : JVal) (hf : find k ms = none) :
    Rewrites loc [opObj false sAdd (Pointer.toString loc ++ 47 :: escapeToken k) (some v)] (.obj ms)
      (.obj (insertSorted k v ms)) := by
  rw [toString_snoc]
  exact op_add loc k v (Or.inr rfl) (by simp [finalStep, hf, tryEmplace])

theorem op_add_arr (loc : List Bytes) (xs : List JVal) (v : JVal) (h64 : xs.length < 2 ^ 64) :
    Rewrites loc [opObj false sAdd (Pointer.toString loc ++ 47 :: natDigits xs.length) (some v)] (.arr xs)
      (.arr (xs ++ [v])) := by
  rw [toString_snoc_idx loc _]
  exact op_add loc _ v (Or.inl (natDigits_ne_dash _))
    (by simp [finalStep, isDash_natDigits, decToIndex_natDigits _ h64])

theorem removeOps_run (loc : List Bytes) (lo : Nat) : ∀ (n : Nat) (xs : List JVal), n = xs.length - lo → xs.length ≤ 2 ^ 64 →
    Rewrites loc (removeOps false (Pointer.toString loc) lo n) (.arr xs) (.arr (xs.take lo))
  | 0, xs, hn, _ => by
    rw [List.take_of_length_le (by omega)]
    exact .nil loc _
  | n + 1, xs, hn, h64 => by
    have hlen : xs.length = lo + n + 1 := by omega
    have h1 := op_remove_arr loc xs (lo + n) (by omega) (by omega)
    have he : xs.eraseIdx (lo + n) = xs.take (lo + n) := by
      rw [List.eraseIdx_eq_take_drop_succ, List.drop_of_length_le (by omega), List.append_nil]
    rw [he] at h1
    have h2 := removeOps_run loc lo n (xs.take (lo + n)) (by rw [List.length_take]; omega) (by rw [List.length_take]; omega)
    rw [List.take_take, Nat.min_eq_left (by omega)] at h2
    exact h1.cons h2

theorem addOps_run (loc : List Bytes) : ∀ (as : List JVal) (i : Nat) (xs : List JVal),
    (as ≠ [] → xs.length = i ∧ i + as.length ≤ 2 ^ 64) →
    Rewrites loc (addOps false (Pointer.toString loc) i as) (.arr xs) (.arr (xs ++ as))
  | [], i, xs, _ => by
    rw [List.append_nil]
    exact .nil loc _
  | a :: as, i, xs, hc => by
    obtain ⟨hi, h64⟩ := hc (by simp)
    subst hi
    simp only [List.length_cons] at h64
    have h2 := addOps_run loc as (xs.length + 1) (xs ++ [a]) (fun _ => ⟨by simp, by omega⟩)
    rw [List.append_assoc, List.singleton_append] at h2
    exact (op_add_arr loc xs a (by omega)).cons h2

/-- what the element-wise phase of the array diff leaves: the common prefix rewritten -/
def overlay : List JVal → List JVal → List JVal
  | _ :: ss, t :: tt => t :: overlay ss tt
  | ss, _ => ss

theorem overlay_length : ∀ (ss tt : List JVal), (overlay ss tt).length = ss.length
  | [], _ => by simp [overlay]
  | _ :: _, [] => by simp [overlay]
  | _ :: ss, _ :: tt => by simp [overlay, overlay_length ss tt]

theorem overlay_final : ∀ (ss tt : List JVal), (overlay ss tt).take tt.length ++ tt.drop ss.length = tt
  | [], tt => by simp [overlay]
  | _ :: _, [] => by simp [overlay]
  | _ :: ss, t :: tt => by simp [overlay, overlay_final ss tt]

theorem diffAdded_run (loc : List Bytes) (sm : List (Bytes × JVal)) : ∀ (rem M : List (Bytes × JVal)), Sorted M → Sorted rem →
    (∀ k, find k sm = none → (find k rem).isSome = true → find k M = none) →
    ∃ M', Rewrites loc (diffAdded false (Pointer.toString loc) sm rem) (.obj M) (.obj M') ∧ Sorted M' ∧
      ∀ k, find k M' = if ((find k sm).isNone && (find k rem).isSome) = true then find k rem else find k M
  | [], M, hM, _, _ => ⟨M, .nil loc _, hM, fun k => by simp [find]⟩
  | (k, tv) :: rem, M, hM, hr, hinv => by
    have hkr : find k rem = none := hr.find_tail
    simp only [diffAdded]
    cases hs : find k sm with
    | some sv =>
      have hinv2 : ∀ k', find k' sm = none → (find k' rem).isSome = true → find k' M = none := by
        intro k' h1 h2
        apply hinv k' h1
        simp only [find]
        by_cases e : k = k'
        · simp [e]
        · simp [e, h2]
      obtain ⟨M', hrun, hsM, hfM⟩ := diffAdded_run loc sm rem M hM hr.tail hinv2
      refine ⟨M', by simpa using hrun, hsM, ?_⟩
      intro k'
      rw [hfM k']
      by_cases e : k = k'
      · subst e; simp [hs]
      · simp [find, e]
    | none =>
      have hkM : find k M = none := hinv k hs (by simp [find])
      have hinv2 : ∀ k', find k' sm = none → (find k' rem).isSome = true → find k' (insertSorted k tv M) = none := by
        intro k' h1 h2
        have hne : k' ≠ k := by
          intro e; subst e; rw [hkr] at h2; simp at h2
        rw [find_insertSorted_ne hne]
        apply hinv k' h1
        simp [find, Ne.symm hne, h2]
      obtain ⟨M', hrun, hsM, hfM⟩ := diffAdded_run loc sm rem _ (sorted_insertSorted hM hkM) hr.tail hinv2
      refine ⟨M', (op_add_obj loc M k tv hkM).cons hrun, hsM, ?_⟩
      intro k'
      rw [hfM k']
      by_cases e : k' = k
      · subst e; simp [hs, hkr, find, find_insertSorted_self]
      · simp [find, Ne.symm e, find_insertSorted_ne e]

theorem diffElems_nil_left (p : Bytes) (i : Nat) (tt : List JVal) : diffElems false p i [] tt = [] := by
  cases tt <;> simp [diffElems]

theorem diffElems_nil_right (p : Bytes) (i : Nat) (ss : List JVal) : diffElems false p i ss [] = [] := by
  cases ss <;> simp [diffElems]

theorem overlay_nil_left (tt : List JVal) : overlay [] tt = [] := by cases tt <;> rfl
theorem overlay_nil_right (ss : List JVal) : overlay ss [] = ss := by cases ss <;> rfl

def DiffOK (s : JVal) : Prop :=
  ∀ t : JVal, s.WF → t.WF → SmallArrays s → SmallArrays t → ∀ loc : List Bytes,
    Rewrites loc (fromDiff false (Pointer.toString loc) s t) s t

theorem diffElems_run_of (loc : List Bytes) : ∀ (ss tt : List JVal), (∀ s ∈ ss, DiffOK s) → WFList ss → WFList tt →
    SmallList ss → SmallList tt → ∀ (i : Nat) (pre : List JVal), pre.length = i → i + ss.length < 2 ^ 64 →
      Rewrites loc (diffElems false (Pointer.toString loc) i ss tt) (.arr (pre ++ ss)) (.arr (pre ++ overlay ss tt))
  | [], tt, _, _, _, _, _, i, pre, _, _ => by
    rw [diffElems_nil_left, overlay_nil_left]; exact .nil loc _
  | s :: ss, [], _, _, _, _, _, i, pre, _, _ => by
    rw [diffElems_nil_right, overlay_nil_right]; exact .nil loc _
  | s :: ss, t :: tt, ih, hw, hwt, hs, hst, i, pre, hi, h64 => by
    simp only [List.length_cons] at h64
    have hi64 : i < 2 ^ 64 := by omega
    have hdi := decToIndex_natDigits i hi64
    have hx : (pre ++ s :: ss)[i]? = some s := by subst hi; simp
    simp only [diffElems]
    rw [toString_snoc_idx loc i]
    have hP := (ih s (by simp) t hw.1 hwt.1 hs.1 hst.1 (loc ++ [natDigits i])).child
      (child_arr (isDash_natDigits i) hdi hx)
    have hset : (pre ++ s :: ss).set i t = (pre ++ [t]) ++ ss := by subst hi; simp
    simp only [setChild, hdi, hset] at hP
    have hQ := diffElems_run_of loc ss tt (fun s' hs' => ih s' (by simp [hs'])) hw.2 hwt.2 hs.2 hst.2 (i + 1) (pre ++ [t])
      (by simp [hi]) (by omega)
    have e : pre ++ overlay (s :: ss) (t :: tt) = (pre ++ [t]) ++ overlay ss tt := by simp [overlay]
    rw [e]
    exact hP.append hQ

theorem diffMembers_run_of (loc : List Bytes) : ∀ (rem tm : List (Bytes × JVal)), (∀ p ∈ rem, DiffOK p.2) → WFMembers rem →
    Sorted rem → WFMembers tm → SmallMembers rem → SmallMembers tm →
    ∀ (M : List (Bytes × JVal)), Sorted M → (∀ k v, find k rem = some v → find k M = some v) →
      ∃ M', Rewrites loc (diffMembers false (Pointer.toString loc) rem tm) (.obj M) (.obj M') ∧ Sorted M' ∧
        ∀ k, find k M' = if (find k rem).isSome = true then find k tm else find k M
  | [], tm, _, _, _, _, _, _, M, hM, _ => ⟨M, by simp only [diffMembers]; exact .nil loc _, hM, fun k => by simp [find]⟩
  | (k, sv) :: rem, tm, ih, hw, hr, hwt, hs, hst, M, hM, hinv => by
    have hkM : find k M = some sv := hinv k sv (by simp [find])
    have hkr : find k rem = none := hr.find_tail
    simp only [diffMembers]
    -- whichever operation comes first, it settles the member `k` and leaves the others to the rest of the list
    have hrest : ∀ (M1 : List (Bytes × JVal)) (x : Option JVal), Sorted M1 → find k M1 = x → x = find k tm →
        (∀ k', k' ≠ k → find k' M1 = find k' M) →
        ∀ ops, Rewrites loc ops (.obj M) (.obj M1) →
        ∃ M', Rewrites loc (ops ++ diffMembers false (Pointer.toString loc) rem tm) (.obj M) (.obj M') ∧
          Sorted M' ∧ ∀ k', find k' M' = if (find k' ((k, sv) :: rem)).isSome = true then find k' tm else find k' M := by
      intro M1 x hsM1 hk1 hxt hne1 ops hops
      have hinv1 : ∀ k' v, find k' rem = some v → find k' M1 = some v := by
        intro k' v hf
        have hne : k' ≠ k := by intro e; subst e; rw [hkr] at hf; simp at hf
        rw [hne1 k' hne]
        apply hinv k' v
        simp [find, Ne.symm hne, hf]
      obtain ⟨M', hrun, hsM, hfM⟩ := diffMembers_run_of loc rem tm (fun p hp => ih p (by simp [hp])) hw.2 hr.tail hwt hs.2 hst
        M1 hsM1 hinv1
      refine ⟨M', hops.append hrun, hsM, ?_⟩
      intro k'
      rw [hfM k']
      by_cases e : k' = k
      · subst e; simp [hkr, find, hk1, hxt]
      · simp [find, Ne.symm e, hne1 k' e]
    cases ht : find k tm with
    | some tv =>
      simp only []
      rw [toString_snoc]
      exact hrest (replaceVal k tv M) (some tv) (sorted_replaceVal hM) (find_replaceVal_self hkM) ht.symm
        (fun k' hne => find_replaceVal_ne hne) _
        ((ih (k, sv) (by simp) tv hw.1 (wf_of_find hwt ht) hs.1 (small_of_find hst ht) (loc ++ [k])).child (child_obj hkM))
    | none =>
      simp only []
      exact hrest (erase k M) none (sorted_erase hM) (find_erase_self hM) ht.symm
        (fun k' hne => find_erase_ne hne) _ (op_remove_obj loc M k sv hkM)

theorem fromDiff_run : ∀ s : JVal, DiffOK s
  | .arr ss => fun t hw hwt hs hst loc => by
    simp only [fromDiff]
    refine .unless_eq ?_
    cases t with
    | arr tt =>
      simp only []
      have hs2 : ss.length < 2 ^ 64 ∧ SmallList ss := by simpa only [SmallArrays] using hs
      have hst2 : tt.length < 2 ^ 64 ∧ SmallList tt := by simpa only [SmallArrays] using hst
      have hA := diffElems_run_of loc ss tt (fun s _ => fromDiff_run s) hw hwt hs2.2 hst2.2 0 [] rfl (by omega)
      rw [List.nil_append, List.nil_append] at hA
      have hB := removeOps_run loc tt.length (ss.length - tt.length) (overlay ss tt)
        (by rw [overlay_length]) (by rw [overlay_length]; omega)
      have hC := addOps_run loc (tt.drop ss.length) ss.length ((overlay ss tt).take tt.length) (by
        intro hne
        have hlt : ss.length < tt.length := Nat.lt_of_not_le fun hle => hne (List.drop_eq_nil_iff.2 hle)
        rw [List.length_take, overlay_length, List.length_drop]
        omega)
      rw [overlay_final] at hC
      exact (hA.append hB).append hC
    | null | bool _ | int _ | str _ | obj _ => exact op_replace loc _ _
  | .obj sm => fun t hw hwt hs hst loc => by
    simp only [fromDiff]
    refine .unless_eq ?_
    cases t with
    | obj tm =>
      simp only []
      have hw2 : Sorted sm ∧ WFMembers sm := hw
      have hwt2 : Sorted tm ∧ WFMembers tm := hwt
      obtain ⟨M1, hrun1, hs1, hf1⟩ := diffMembers_run_of loc sm tm (fun p _ => fromDiff_run p.2) hw2.2 hw2.1 hwt2.2
        (by simpa only [SmallArrays] using hs) (by simpa only [SmallArrays] using hst) sm hw2.1 (fun _ _ hh => hh)
      obtain ⟨M2, hrun2, hs2, hf2⟩ := diffAdded_run loc sm tm M1 hs1 hwt2.1 (by
        intro k hk _
        rw [hf1 k, hk]; rfl)
      have e : M2 = tm := by
        apply sorted_ext hs2 hwt2.1
        intro k
        rw [hf2 k, hf1 k]
        cases find k sm <;> cases find k tm <;> simp
      rw [e] at hrun2
      exact hrun1.append hrun2
    | null | bool _ | int _ | str _ | arr _ => exact op_replace loc _ _
  | .null | .bool _ | .int _ | .str _ => fun t _ _ _ _ loc => by
    simp only [fromDiff]
    exact .unless_eq (op_replace loc _ t)
termination_by s => s.size
decreasing_by
  all_goals simp_wf
  · have := size_of_mem ‹_ ∈ _›; simp only [JVal.size]; omega
  · have := size_of_mem_members ‹_ ∈ _›; simp only [JVal.size]; omega

theorem diffElems_run : ∀ (ss tt : List JVal), WFList ss → WFList tt → SmallList ss → SmallList tt →
    ∀ (i : Nat) (pre : List JVal) (d : JVal) (loc : List Bytes), get d loc = .ok (.arr (pre ++ ss)) →
      pre.length = i → i + ss.length < 2 ^ 64 →
      runOps d (diffElems false (Pointer.toString loc) i ss tt) = some (put d loc (.arr (pre ++ overlay ss tt))) :=
  fun ss tt hw hwt hs hst i pre d loc h hi h64 =>
    diffElems_run_of loc ss tt (fun s _ => fromDiff_run s) hw hwt hs hst i pre hi h64 d h

theorem diffMembers_run : ∀ (rem tm : List (Bytes × JVal)), WFMembers rem → Sorted rem → WFMembers tm →
    SmallMembers rem → SmallMembers tm →
    ∀ (d : JVal) (loc : List Bytes) (M : List (Bytes × JVal)), get d loc = .ok (.obj M) → Sorted M →
      (∀ k v, find k rem = some v → find k M = some v) →
      ∃ M', runOps d (diffMembers false (Pointer.toString loc) rem tm) = some (put d loc (.obj M')) ∧ Sorted M' ∧
        ∀ k, find k M' = if (find k rem).isSome = true then find k tm else find k M :=
  fun rem tm hw hr hwt hs hst d loc M h hM hinv =>
    let ⟨M', hrun, hrest⟩ := diffMembers_run_of loc rem tm (fun p _ => fromDiff_run p.2) hw hr hwt hs hst M hM hinv
    ⟨M', hrun d h, hrest⟩

end Patch
end Model
end JV
