/-
  A list of pairs whose keys increase strictly under a strict total order is determined by its set of members;
  the lexicographic order of lists over a strict total order is one again.  For byte-string keys this is the
  representation invariant of `sorted_json_object`, under which `find` / `erase` / `insertSorted` obey the
  finite-map laws; what needs only unique keys (the insertion-ordered flavour) is stated for unique keys.
-/
import JV.Basic.JVal
namespace JV

namespace SMap

structure StrictTotal {K : Type} (lt : K → K → Bool) : Prop where
  irrefl : ∀ a, lt a a = false
  trans : ∀ {a b c}, lt a b = true → lt b c = true → lt a c = true
  tri : ∀ a b, lt a b = true ∨ a = b ∨ lt b a = true

variable {K V : Type} {lt : K → K → Bool}

theorem StrictTotal.ne (st : StrictTotal lt) {a b : K} (h : lt a b = true) : a ≠ b := by
  intro e; subst e; rw [st.irrefl] at h; cases h

theorem StrictTotal.asymm (st : StrictTotal lt) {a b : K} (h : lt a b = true) : lt b a = false := by
  cases hb : lt b a with
  | false => rfl
  | true => have := st.trans h hb; rw [st.irrefl] at this; cases this

def SSorted (lt : K → K → Bool) : List (K × V) → Prop
  | [] => True
  | (k, _) :: ms => (∀ e ∈ ms, lt k e.1 = true) ∧ SSorted lt ms

theorem ssorted_iff_pairwise : ∀ {ms : List (K × V)}, SSorted lt ms ↔ ms.Pairwise (fun a b => lt a.1 b.1 = true)
  | [] => by simp [SSorted]
  | (k, v) :: ms => by simp [SSorted, ssorted_iff_pairwise (ms := ms)]

theorem SSorted.nodup (st : StrictTotal lt) {a : List (K × V)} (h : SSorted lt a) : a.Nodup :=
  (ssorted_iff_pairwise.1 h).imp fun hlt e => st.ne hlt (congrArg Prod.fst e)

theorem ext (st : StrictTotal lt) {a b : List (K × V)} (ha : SSorted lt a) (hb : SSorted lt b) (h : ∀ x, x ∈ a ↔ x ∈ b) :
    a = b :=
  ((List.perm_ext_iff_of_nodup (ha.nodup st) (hb.nodup st)).2 h).eq_of_pairwise
    (fun _ _ _ _ hxy hyx => absurd (st.trans hxy hyx) (by simp [st.irrefl]))
    (ssorted_iff_pairwise.1 ha) (ssorted_iff_pairwise.1 hb)

/-- the lexicographic order of lists over `lt`, a proper prefix first (the shape of `keyLt`, `toksLt`, `pathLt`) -/
def listLt (lt : K → K → Bool) : List K → List K → Bool
  | [], [] => false
  | [], _ :: _ => true
  | _ :: _, [] => false
  | a :: as, b :: bs => if lt a b then true else if lt b a then false else listLt lt as bs

theorem listLt_cons (st : StrictTotal lt) (x y : K) (a b : List K) :
    listLt lt (x :: a) (y :: b) = true ↔ lt x y = true ∨ (x = y ∧ listLt lt a b = true) := by
  rcases st.tri x y with h | rfl | h
  · simp [listLt, h]
  · simp [listLt, st.irrefl]
  · simp [listLt, h, st.asymm h, (st.ne h).symm]

theorem StrictTotal.lex (st : StrictTotal lt) : StrictTotal (listLt lt) where
  irrefl := by
    intro a
    induction a with
    | nil => rfl
    | cons x a ih => simp [listLt, st.irrefl, ih]
  trans := by
    intro a
    induction a with
    | nil => intro b c h1 h2; cases b <;> cases c <;> simp_all [listLt]
    | cons x a ih =>
      intro b c h1 h2
      cases b with
      | nil => simp [listLt] at h1
      | cons y b =>
        cases c with
        | nil => simp [listLt] at h2
        | cons z c =>
          rw [listLt_cons st] at h1 h2 ⊢
          rcases h1 with h1 | ⟨rfl, h1⟩
          · rcases h2 with h2 | ⟨rfl, h2⟩
            · exact Or.inl (st.trans h1 h2)
            · exact Or.inl h1
          · rcases h2 with h2 | ⟨rfl, h2⟩
            · exact Or.inl h2
            · exact Or.inr ⟨rfl, ih h1 h2⟩
  tri := by
    intro a
    induction a with
    | nil => intro b; cases b <;> simp [listLt]
    | cons x a ih =>
      intro b
      cases b with
      | nil => simp [listLt]
      | cons y b =>
        rw [listLt_cons st, listLt_cons st]
        rcases st.tri x y with h | rfl | h
        · exact Or.inl (Or.inl h)
        · rcases ih b with h | rfl | h
          · exact Or.inl (Or.inr ⟨rfl, h⟩)
          · exact Or.inr (Or.inl rfl)
          · exact Or.inr (Or.inr (Or.inr ⟨rfl, h⟩))
        · exact Or.inr (Or.inr (Or.inl h))

end SMap

namespace Assoc
open SMap

theorem keyLt_eq_listLt : ∀ a b : Bytes, keyLt a b = listLt (fun x y : Nat => decide (x < y)) a b
  | [], [] => rfl
  | [], _ :: _ => rfl
  | _ :: _, [] => rfl
  | x :: a, y :: b => by simp only [keyLt, listLt, decide_eq_true_eq, keyLt_eq_listLt a b]

theorem natLt_st : StrictTotal (fun x y : Nat => decide (x < y)) :=
  ⟨fun a => by simp, fun h1 h2 => by simp at *; omega, fun a b => by simp; omega⟩

theorem keyLt_st : StrictTotal keyLt := by
  rw [show keyLt = listLt (fun x y : Nat => decide (x < y)) from funext fun a => funext (keyLt_eq_listLt a)]
  exact natLt_st.lex

theorem keyLt_irrefl (a : Bytes) : keyLt a a = false := keyLt_st.irrefl a

theorem keyLt_trans {a b c : Bytes} (h1 : keyLt a b = true) (h2 : keyLt b c = true) : keyLt a c = true :=
  keyLt_st.trans h1 h2

theorem keyLt_trichotomy (a b : Bytes) : keyLt a b = true ∨ a = b ∨ keyLt b a = true := keyLt_st.tri a b

theorem keyLt_ne {a b : Bytes} (h : keyLt a b = true) : a ≠ b := keyLt_st.ne h

theorem keyLt_asymm {a b : Bytes} (h : keyLt a b = true) : keyLt b a = false := keyLt_st.asymm h

variable {α : Type}

/-! ### the forms of the invariant: neighbours in order (`Sorted`); each key below all later ones (`SSorted keyLt`, and
    `AllGt k` for the head alone); `Pairwise` on the keys -/

def AllGt (k : Bytes) : List (Bytes × α) → Prop
  | [] => True
  | (k', _) :: ms => keyLt k k' = true ∧ AllGt k ms

theorem allGt_iff {k : Bytes} : ∀ {ms : List (Bytes × α)}, AllGt k ms ↔ ∀ e ∈ ms, keyLt k e.1 = true
  | [] => by simp [AllGt]
  | (k', v) :: ms => by simp [AllGt, allGt_iff (ms := ms)]

theorem Sorted.tail {m : Bytes × α} {ms : List (Bytes × α)} (h : Sorted (m :: ms)) : Sorted ms := by
  cases ms with
  | nil => trivial
  | cons m' ms => cases m; cases m'; exact h.2

theorem AllGt.trans {k k' : Bytes} (hk : keyLt k k' = true) {ms : List (Bytes × α)} (h : AllGt k' ms) : AllGt k ms :=
  allGt_iff.2 fun e he => keyLt_trans hk (allGt_iff.1 h e he)

theorem Sorted.allGt : ∀ {k : Bytes} {v : α} {ms : List (Bytes × α)}, Sorted ((k, v) :: ms) → AllGt k ms
  | _, _, [], _ => trivial
  | _, _, (_, v') :: _, h => ⟨h.1, AllGt.trans h.1 (Sorted.allGt (v := v') h.2)⟩

theorem sorted_cons {k : Bytes} {v : α} {ms : List (Bytes × α)} (hg : AllGt k ms) (hs : Sorted ms) :
    Sorted ((k, v) :: ms) := by
  cases ms with
  | nil => trivial
  | cons m' ms => cases m'; exact ⟨hg.1, hs⟩

theorem sorted_iff_ssorted : ∀ {ms : List (Bytes × α)}, Sorted ms ↔ SSorted keyLt ms
  | [] => Iff.rfl
  | (_, _) :: _ => ⟨fun h => ⟨allGt_iff.1 h.allGt, sorted_iff_ssorted.1 h.tail⟩,
      fun h => sorted_cons (allGt_iff.2 h.1) (sorted_iff_ssorted.2 h.2)⟩

theorem sorted_iff_keys {ms : List (Bytes × α)} : Sorted ms ↔ (keys ms).Pairwise (fun a b => keyLt a b = true) := by
  rw [sorted_iff_ssorted, ssorted_iff_pairwise, keys, List.pairwise_map]

end Assoc

namespace SMap
open Assoc

theorem sorted_of_ssorted {α : Type} : ∀ {ms : List (Bytes × α)}, SSorted keyLt ms → Assoc.Sorted ms :=
  sorted_iff_ssorted.2

end SMap

namespace Assoc
open SMap
variable {α : Type}

theorem find_cons_eq_some {k k' : Bytes} {v x : α} {ms : List (Bytes × α)} :
    find k ((k', v) :: ms) = some x ↔ (k' = k ∧ v = x) ∨ (k' ≠ k ∧ find k ms = some x) := by
  by_cases e : k' = k <;> simp [find, e]

theorem find_cons_eq_none {k k' : Bytes} {v : α} {ms : List (Bytes × α)} :
    find k ((k', v) :: ms) = none ↔ k' ≠ k ∧ find k ms = none := by
  by_cases e : k' = k <;> simp [find, e]

theorem find_eq_none_iff {k : Bytes} : ∀ {ms : List (Bytes × α)}, find k ms = none ↔ ∀ e ∈ ms, e.1 ≠ k
  | [] => by simp [find]
  | (k', v) :: ms => by simp [find_cons_eq_none, find_eq_none_iff (ms := ms)]

theorem mem_of_find {k : Bytes} {v : α} : ∀ {ms : List (Bytes × α)}, find k ms = some v → (k, v) ∈ ms
  | [], h => by simp [find] at h
  | (k', v') :: ms, h => by
    rcases find_cons_eq_some.1 h with ⟨rfl, rfl⟩ | ⟨_, h⟩
    · exact List.mem_cons_self
    · exact List.mem_cons_of_mem _ (mem_of_find h)

theorem nodup_cons_iff {k : Bytes} {v : α} {ms : List (Bytes × α)} :
    (keys ((k, v) :: ms)).Nodup ↔ find k ms = none ∧ (keys ms).Nodup := by
  rw [find_eq_none_iff, keys, List.map_cons, List.nodup_cons, List.mem_map]
  exact and_congr_left fun _ => ⟨fun h e he e' => h ⟨e, he, e'⟩, fun h ⟨e, he, e'⟩ => h e he e'⟩

theorem sorted_nodup {ms : List (Bytes × α)} (hs : Sorted ms) : (keys ms).Nodup :=
  (sorted_iff_keys.1 hs).imp keyLt_ne

theorem find_of_mem_nodup {k : Bytes} {v : α} : ∀ {ms : List (Bytes × α)}, (keys ms).Nodup → (k, v) ∈ ms → find k ms = some v
  | [], _, h => by cases h
  | (k', v') :: ms, hn, h => by
    obtain ⟨hk', hn⟩ := nodup_cons_iff.1 hn
    rcases List.mem_cons.1 h with h | h
    · cases h; simp [find]
    · have hne : k' ≠ k := fun e => find_eq_none_iff.1 hk' _ h e.symm
      simp only [find, hne, if_false]
      exact find_of_mem_nodup hn h

theorem find_of_mem {k : Bytes} {v : α} {ms : List (Bytes × α)} (hs : Sorted ms) (h : (k, v) ∈ ms) : find k ms = some v :=
  find_of_mem_nodup (sorted_nodup hs) h

theorem find_none_of_allGt {k k' : Bytes} (hk : keyLt k k' = true ∨ k = k') {ms : List (Bytes × α)}
    (h : AllGt k' ms) : find k ms = none :=
  find_eq_none_iff.2 fun e he heq => by
    have hlt : keyLt k' e.1 = true := allGt_iff.1 h e he
    rcases hk with hk | hk
    · exact keyLt_ne (keyLt_trans hk hlt) heq.symm
    · exact keyLt_ne hlt (hk ▸ heq.symm)

theorem Sorted.find_tail {k : Bytes} {v : α} {ms : List (Bytes × α)} (h : Sorted ((k, v) :: ms)) : find k ms = none :=
  find_none_of_allGt (Or.inr rfl) h.allGt

theorem sorted_ext {a b : List (Bytes × α)} (ha : Sorted a) (hb : Sorted b) (h : ∀ k, find k a = find k b) : a = b :=
  ext keyLt_st (sorted_iff_ssorted.1 ha) (sorted_iff_ssorted.1 hb) fun (k, _) =>
    ⟨fun m => mem_of_find (h k ▸ find_of_mem ha m), fun m => mem_of_find (h k ▸ find_of_mem hb m)⟩

theorem erase_of_find_none : ∀ {k : Bytes} {ms : List (Bytes × α)}, find k ms = none → erase k ms = ms
  | _, [], _ => rfl
  | k, (k', v) :: ms, h => by
    obtain ⟨e, h⟩ := find_cons_eq_none.1 h
    simp only [erase, e, if_false, erase_of_find_none h]

theorem erase_sublist (k : Bytes) : ∀ ms : List (Bytes × α), (erase k ms).Sublist ms
  | [] => .slnil
  | (k', v) :: ms => by
    simp only [erase]
    split
    · exact List.sublist_cons_self _ _
    · exact (erase_sublist k ms).cons_cons _

theorem mem_erase {k : Bytes} {p : Bytes × α} {ms : List (Bytes × α)} (h : p ∈ erase k ms) : p ∈ ms :=
  (erase_sublist k ms).subset h

theorem nodup_erase {k : Bytes} {ms : List (Bytes × α)} (hn : (keys ms).Nodup) : (keys (erase k ms)).Nodup :=
  hn.sublist ((erase_sublist k ms).map _)

theorem sorted_erase {k : Bytes} {ms : List (Bytes × α)} (hs : Sorted ms) : Sorted (erase k ms) :=
  sorted_iff_keys.2 ((sorted_iff_keys.1 hs).sublist ((erase_sublist k ms).map _))

theorem find_erase_self_nodup {k : Bytes} : ∀ {ms : List (Bytes × α)}, (keys ms).Nodup → find k (erase k ms) = none
  | [], _ => rfl
  | (k', v) :: ms, hn => by
    obtain ⟨hk', hn⟩ := nodup_cons_iff.1 hn
    simp only [erase]
    by_cases e : k' = k
    · simp only [e, if_true]; exact e ▸ hk'
    · simp only [e, if_false, find]; exact find_erase_self_nodup hn

theorem find_erase_self {k : Bytes} {ms : List (Bytes × α)} (hs : Sorted ms) : find k (erase k ms) = none :=
  find_erase_self_nodup (sorted_nodup hs)

theorem find_erase_ne {k k' : Bytes} (hne : k' ≠ k) : ∀ {ms : List (Bytes × α)}, find k' (erase k ms) = find k' ms
  | [] => rfl
  | (k'', v) :: ms => by
    simp only [erase]
    by_cases e : k'' = k
    · have : k'' ≠ k' := fun e' => hne (e'.symm.trans e)
      simp [e, find, e ▸ this]
    · simp only [e, if_false, find, find_erase_ne hne (ms := ms)]

/-! ### appending a member (the absent-key branch of the insertion-ordered `try_emplace`) -/

theorem find_append_one {k k' : Bytes} {v : α} : ∀ {ms : List (Bytes × α)},
    find k' (ms ++ [(k, v)]) = match find k' ms with
      | some x => some x
      | none => if k = k' then some v else none
  | [] => by simp [find]
  | (k'', v') :: ms => by
    by_cases e : k'' = k'
    · simp [find, e]
    · simp only [List.cons_append, find, e, if_false]; exact find_append_one

theorem nodup_append_one {k : Bytes} {v : α} {ms : List (Bytes × α)} (hn : (keys ms).Nodup) (hf : find k ms = none) :
    (keys (ms ++ [(k, v)])).Nodup := by
  rw [keys, List.map_append, List.nodup_append]
  refine ⟨hn, by simp, fun a ha b hb => ?_⟩
  obtain ⟨e, he, rfl⟩ := List.mem_map.1 ha
  rw [List.mem_singleton.1 hb]
  exact find_eq_none_iff.1 hf e he

theorem erase_append_absent {k : Bytes} {v : α} : ∀ {ms : List (Bytes × α)}, find k ms = none →
    erase k (ms ++ [(k, v)]) = ms
  | [], _ => by simp [erase]
  | (k', v') :: ms, h => by
    obtain ⟨e, h⟩ := find_cons_eq_none.1 h
    simp [erase, e, erase_append_absent h]

/-! ### insertSorted (the absent-key branch of `try_emplace`) -/

theorem insertSorted_perm {k : Bytes} {v : α} : ∀ {ms : List (Bytes × α)}, (insertSorted k v ms).Perm ((k, v) :: ms)
  | [] => .refl _
  | (k', v') :: ms => by
    simp only [insertSorted]
    split
    · exact (insertSorted_perm.cons _).trans (.swap _ _ _)
    · exact .refl _

theorem mem_insertSorted {k : Bytes} {v : α} {p : Bytes × α} {ms : List (Bytes × α)} :
    p ∈ insertSorted k v ms ↔ p = (k, v) ∨ p ∈ ms :=
  insertSorted_perm.mem_iff.trans List.mem_cons

theorem _root_.JV.insertSorted_of_allGt {k : Bytes} {v : JVal} : ∀ {ms : List (Bytes × JVal)}, AllGt k ms →
    insertSorted k v ms = (k, v) :: ms
  | [], _ => rfl
  | (k', v') :: ms, h => by
    have : keyLt k' k = false := keyLt_asymm h.1
    simp [insertSorted, this]

theorem allGt_insertSorted {k k' : Bytes} {v : α} (hk : keyLt k' k = true) {ms : List (Bytes × α)} (h : AllGt k' ms) :
    AllGt k' (insertSorted k v ms) :=
  allGt_iff.2 fun e he => (mem_insertSorted.1 he).elim (· ▸ hk) (allGt_iff.1 h e)

theorem sorted_insertSorted {k : Bytes} {v : α} :
    ∀ {ms : List (Bytes × α)}, Sorted ms → find k ms = none → Sorted (insertSorted k v ms)
  | [], _, _ => trivial
  | (k', v') :: ms, h, hf => by
    obtain ⟨hne, hf⟩ := find_cons_eq_none.1 hf
    simp only [insertSorted]
    split
    · next hl => exact sorted_cons (allGt_insertSorted hl h.allGt) (sorted_insertSorted h.tail hf)
    · next hl => exact ⟨((keyLt_trichotomy k k').resolve_right (not_or.2 ⟨Ne.symm hne, hl⟩)), h⟩

theorem find_insertSorted_self {k : Bytes} {v : α} :
    ∀ {ms : List (Bytes × α)}, find k (insertSorted k v ms) = some v
  | [] => by simp [insertSorted, find]
  | (k', v') :: ms => by
    simp only [insertSorted]
    by_cases hl : keyLt k' k = true
    · have : k' ≠ k := keyLt_ne hl
      simp only [hl, if_true, find, this, if_false]
      exact find_insertSorted_self
    · simp [hl, find]

theorem find_insertSorted_ne {k k' : Bytes} {v : α} (hne : k' ≠ k) :
    ∀ {ms : List (Bytes × α)}, find k' (insertSorted k v ms) = find k' ms
  | [] => by simp [insertSorted, find, Ne.symm hne]
  | (k'', v') :: ms => by
    simp only [insertSorted]
    split
    · simp only [find, find_insertSorted_ne hne (ms := ms)]
    · simp [find, Ne.symm hne]

theorem erase_insertSorted_absent {k : Bytes} {v : α} : ∀ {ms : List (Bytes × α)}, find k ms = none →
    erase k (insertSorted k v ms) = ms
  | [], _ => by simp [insertSorted, erase]
  | (k', v') :: ms, h => by
    obtain ⟨e, h⟩ := find_cons_eq_none.1 h
    simp only [insertSorted]
    split
    · simp [erase, e, erase_insertSorted_absent h]
    · simp [erase]

theorem insertSorted_erase {k : Bytes} {v : α} {ms : List (Bytes × α)} (hs : Sorted ms) (h : find k ms = some v) :
    insertSorted k v (erase k ms) = ms := by
  apply sorted_ext (sorted_insertSorted (sorted_erase hs) (find_erase_self hs)) hs
  intro k'
  by_cases e : k' = k
  · subst e; rw [find_insertSorted_self, h]
  · rw [find_insertSorted_ne e, find_erase_ne e]

end Assoc
end JV
