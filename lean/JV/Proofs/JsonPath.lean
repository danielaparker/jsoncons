/-
  JV.Proofs.JsonPath — every node a query returns is addressed by the path returned with it.
-/
import JV.Model.JsonPath
import JV.Proofs.JValLemmas
namespace JV
namespace Model
namespace JsonPath
open Assoc

theorem child_uk {v c : JVal} {s : Step} (hu : UK v) (h : child v s = some c) : UK c := by
  cases v <;> cases s <;> simp only [child] at h <;> try (exact absurd h (by simp))
  case obj.name ms k => exact ukMembers_iff.1 hu.2 _ (mem_of_find h)
  case arr.idx xs i => exact ukList_iff.1 hu _ (List.mem_of_getElem? h)

theorem resolve_append (v : JVal) : ∀ (p : Path) (s : Step), resolve v (p ++ [s]) = (resolve v p).bind (child · s)
  | [], s => by
    simp only [List.nil_append, resolve, Option.bind_some]
    cases h : child v s <;> simp
  | t :: p, s => by
    simp only [List.cons_append, resolve]
    cases h : child v t with
    | none => rfl
    | some c => exact resolve_append c p s

/-- a node whose path leads from the root to its value, and whose value has unique keys -/
def Good (root : JVal) (nd : Node) : Prop := resolve root nd.1 = some nd.2 ∧ UK nd.2

theorem good_child {root : JVal} {p : Path} {v c : JVal} {s : Step} (hg : Good root (p, v)) (h : child v s = some c) :
    Good root (p ++ [s], c) := by
  refine ⟨?_, child_uk hg.2 h⟩
  show resolve root (p ++ [s]) = some c
  rw [resolve_append, hg.1]; exact h

theorem pickIdx_good {root : JVal} {p : Path} {xs : List JVal} (hg : Good root (p, .arr xs)) (is : List Nat) :
    ∀ nd ∈ pickIdx p xs is, Good root nd := by
  intro nd h
  simp only [pickIdx, List.mem_filterMap] at h
  obtain ⟨i, _, hi⟩ := h
  cases hx : xs[i]? with
  | none => simp [hx] at hi
  | some x =>
    simp only [hx, Option.map_some, Option.some.injEq] at hi
    subst hi
    exact good_child hg (by simpa [child] using hx)

theorem arrChildren_good {root : JVal} {p : Path} {xs : List JVal} (hg : Good root (p, .arr xs)) :
    ∀ nd ∈ arrChildren p xs, Good root nd := pickIdx_good hg _

theorem objChildren_good {root : JVal} {p : Path} {ms : List (Bytes × JVal)} (hg : Good root (p, .obj ms)) :
    ∀ nd ∈ objChildren p ms, Good root nd := by
  intro nd h
  simp only [objChildren, List.mem_map] at h
  obtain ⟨m, hm, rfl⟩ := h
  exact good_child hg (by simpa [child] using find_of_mem_nodup hg.2.1 (by cases m; exact hm))

theorem select1_good {root : JVal} (sel : Sel) {p : Path} {cur : JVal} (hg : Good root (p, cur)) :
    ∀ nd ∈ select1 root sel p cur, Good root nd := by
  intro nd h
  cases sel <;> cases cur <;> simp only [select1, List.not_mem_nil] at h
  case name.obj k ms =>
    cases hf : find k ms with
    | none => simp [hf] at h
    | some x =>
      simp only [hf, List.mem_singleton] at h
      subst h
      exact good_child hg (by simpa [child] using hf)
  case index.arr i xs =>
    split at h
    · exact pickIdx_good hg _ nd h
    · split at h
      · exact pickIdx_good hg _ nd h
      · simp at h
  case wild.arr xs => exact arrChildren_good hg nd h
  case wild.obj ms => exact objChildren_good hg nd h
  case slice.arr s xs => exact pickIdx_good hg _ nd h
  case filter.arr e xs => exact arrChildren_good hg nd (List.mem_filter.mp h).1
  case filter.obj e ms => exact objChildren_good hg nd (List.mem_filter.mp h).1

mutual
  theorem descend_good (root : JVal) : ∀ (p : Path) (v : JVal), Good root (p, v) → ∀ nd ∈ descend p v, Good root nd
    | p, .arr xs, hg, nd, h => by
      simp only [descend, List.mem_cons] at h
      rcases h with rfl | h
      · exact hg
      · refine descendArr_good root p 0 xs ?_ nd h
        intro j x hx
        exact good_child hg (by simpa [child] using hx)
    | p, .obj ms, hg, nd, h => by
      simp only [descend, List.mem_cons] at h
      rcases h with rfl | h
      · exact hg
      · refine descendObj_good root p ms ?_ nd h
        intro k x hm
        exact good_child hg (by simpa [child] using find_of_mem_nodup hg.2.1 hm)
    | _, .null, _, _, h => by simp [descend] at h
    | _, .bool _, _, _, h => by simp [descend] at h
    | _, .int _, _, _, h => by simp [descend] at h
    | _, .str _, _, _, h => by simp [descend] at h
  theorem descendArr_good (root : JVal) : ∀ (p : Path) (i : Nat) (xs : List JVal),
      (∀ j x, xs[j]? = some x → Good root (p ++ [.idx (i + j)], x)) → ∀ nd ∈ descendArr p i xs, Good root nd
    | _, _, [], _, _, h => by simp [descendArr] at h
    | p, i, x :: xs, hall, nd, h => by
      simp only [descendArr, List.mem_append] at h
      rcases h with h | h
      · exact descend_good root _ x (by simpa using hall 0 x (by simp)) nd h
      · refine descendArr_good root p (i + 1) xs ?_ nd h
        intro j y hy
        have := hall (j + 1) y (by simpa using hy)
        simpa [Nat.add_assoc, Nat.add_comm 1 j] using this
  theorem descendObj_good (root : JVal) : ∀ (p : Path) (ms : List (Bytes × JVal)),
      (∀ k x, (k, x) ∈ ms → Good root (p ++ [.name k], x)) → ∀ nd ∈ descendObj p ms, Good root nd
    | _, [], _, _, h => by simp [descendObj] at h
    | p, (k, x) :: ms, hall, nd, h => by
      simp only [descendObj, List.mem_append] at h
      rcases h with h | h
      · exact descend_good root _ x (hall k x (by simp)) nd h
      · exact descendObj_good root p ms (fun k' y hm => hall k' y (List.mem_cons_of_mem _ hm)) nd h
end

theorem evalSegs_good (root : JVal) : ∀ (segs : List Seg) (nd0 : Node), Good root nd0 → ∀ nd ∈ evalSegs root segs nd0, Good root nd
  | [], nd0, hg, nd, h => by
    simp only [evalSegs, List.mem_singleton] at h; subst h; exact hg
  | .child alts :: rest, nd0, hg, nd, h => by
    simp only [evalSegs, List.mem_flatMap] at h
    obtain ⟨a, _, c, hc, hnd⟩ := h
    exact evalSegs_good root rest c (select1_good a (p := nd0.1) (cur := nd0.2) hg c hc) nd hnd
  | .desc alts :: rest, nd0, hg, nd, h => by
    simp only [evalSegs, List.mem_flatMap] at h
    obtain ⟨d, hd, a, _, c, hc, hnd⟩ := h
    have hgd : Good root d := descend_good root nd0.1 nd0.2 hg d hd
    exact evalSegs_good root rest c (select1_good a (p := d.1) (cur := d.2) hgd c hc) nd hnd

end JsonPath
end Model
end JV
