/-
  JV.Proofs.JsonParserSoundNec — the hypothesis `surrogateOK` of the soundness theorem is NECESSARY: every text the RFC 8259
  reference (without comments) gives a value is free of the two surrogate anomalies. So the texts on which `run_sound_tc` is silent
  and the model accepts are exactly the texts on which model and reference disagree. Proof: the scan `surrogateOK` commutes with
  every production of the reference (induction on the reference's recursion): `surrogateOK s = surrogateOK rest` whenever a
  production reads a prefix of `s` and leaves `rest`.
-/
import JV.Proofs.JsonParserSound
namespace JV
namespace Model
namespace JsonParser
open Spec.Rfc8259 (JT Flags parseValue parseElems parseMembers parseText parseString parseChars parseNumber skipWs startsWith isWs hex4)

theorem parseChars_sOK (fuel : Nat) (cs b rest : Bytes) (h : parseChars fuel cs = some (b, rest)) :
    surrogateOK cs = surrogateOK rest := by
  have hc := parseChars_chars fuel cs b rest h
  clear h
  induction hc with
  | quote rest => exact sOK_cons_eq 34 rest (by decide)
  | unit hu _ ih => rw [sOK_unit hu, ih]

theorem parseString_sOK (s b rest : Bytes) (h : parseString s = some (b, rest)) : surrogateOK s = surrogateOK rest := by
  obtain ⟨cs, rfl, hpc, _⟩ := parseString_inv s b rest h
  rw [sOK_cons_eq 34 cs (by decide)]
  exact parseChars_sOK _ cs b rest hpc

theorem parseNumber_sOK (s lit r : Bytes) (hp : parseNumber s = some (lit, r)) : surrogateOK s = surrogateOK r := by
  rw [parseNumber_split s lit r hp]
  exact sOK_drop_eq lit r (parseNumber_no92 s lit r hp)

def SokAt (fl : Flags) (fuel : Nat) : Prop :=
  (∀ (n : Nat) (s : Bytes) (v : JT) (r : Bytes), parseValue fl fuel n s = some (v, r) → surrogateOK s = surrogateOK r) ∧
  (∀ (n : Nat) (s : Bytes) (xs : List JT) (r : Bytes), parseElems fl fuel n s = some (xs, r) →
    surrogateOK s = surrogateOK r) ∧
  (∀ (n : Nat) (s : Bytes) (ms : List (Bytes × JT)) (r : Bytes), parseMembers fl fuel n s = some (ms, r) →
    surrogateOK s = surrogateOK r)

theorem sok_ws {fl : Flags} (hc : fl.comments = false) {s w : Bytes} (hw : skipWs fl.comments (s.length + 1) s = some w) :
    surrogateOK s = surrogateOK w := by
  rw [hc, skipWs_dropWs] at hw
  rw [← Option.some.inj hw, sOK_dropWs_eq]

theorem sok_value (fl : Flags) (hc : fl.comments = false) (fuel : Nat) (ih : SokAt fl fuel) :
    ∀ (n : Nat) (s : Bytes) (v : JT) (r : Bytes), parseValue fl (fuel + 1) n s = some (v, r) →
      surrogateOK s = surrogateOK r := by
  obtain ⟨_, ihE, ihM⟩ := ih
  intro n s v r h
  cases parseValue_cases h with
  | obj cs hd hw hb =>
    rw [sOK_cons_eq 123 cs (by decide), sok_ws hc hw]
    rcases hb with ⟨rfl, _⟩ | hm
    · exact sOK_cons_eq 125 r (by decide)
    · exact ihM _ _ _ r hm
  | arr cs hd hw hb =>
    rw [sOK_cons_eq 91 cs (by decide), sok_ws hc hw]
    rcases hb with ⟨rfl, _⟩ | hm
    · exact sOK_cons_eq 93 r (by decide)
    · exact ihE _ _ _ r hm
  | str hp => exact parseString_sOK s _ r hp
  | true => exact sOK_drop_eq [116, 114, 117, 101] r (by decide)
  | false => exact sOK_drop_eq [102, 97, 108, 115, 101] r (by decide)
  | null => exact sOK_drop_eq [110, 117, 108, 108] r (by decide)
  | num hp => exact parseNumber_sOK _ _ r hp

theorem sok_elems (fl : Flags) (hc : fl.comments = false) (fuel : Nat) (ih : SokAt fl fuel) :
    ∀ (n : Nat) (s : Bytes) (xs : List JT) (r : Bytes), parseElems fl (fuel + 1) n s = some (xs, r) →
      surrogateOK s = surrogateOK r := by
  obtain ⟨ihV, ihE, _⟩ := ih
  intro n s xs r h
  obtain ⟨v, s1, hv, x, t, hw, hx⟩ := parseElems_cases h
  rw [ihV n s v s1 hv, sok_ws hc hw]
  rcases hx with ⟨rfl, _, rfl⟩ | ⟨rfl, w, hw2, hx2⟩
  · exact sOK_cons_eq 93 r (by decide)
  rw [sOK_cons_eq 44 t (by decide), sok_ws hc hw2]
  rcases hx2 with ⟨rfl, _⟩ | ⟨xs', hm, _⟩
  · exact sOK_cons_eq 93 r (by decide)
  · exact ihE n w xs' r hm

theorem sok_members (fl : Flags) (hc : fl.comments = false) (fuel : Nat) (ih : SokAt fl fuel) :
    ∀ (n : Nat) (s : Bytes) (ms : List (Bytes × JT)) (r : Bytes), parseMembers fl (fuel + 1) n s = some (ms, r) →
      surrogateOK s = surrogateOK r := by
  obtain ⟨ihV, _, ihM⟩ := ih
  intro n s ms r h
  obtain ⟨k, s1, s2, s3, v, s4, hk, hw1, hw2, hv, x, t, hw4, hx⟩ := parseMembers_cases h
  rw [parseString_sOK s k s1 hk, sok_ws hc hw1, sOK_cons_eq 58 s2 (by decide), sok_ws hc hw2, ihV n s3 v s4 hv, sok_ws hc hw4]
  rcases hx with ⟨rfl, _, rfl⟩ | ⟨rfl, w, hw5, hx5⟩
  · exact sOK_cons_eq 125 r (by decide)
  rw [sOK_cons_eq 44 t (by decide), sok_ws hc hw5]
  rcases hx5 with ⟨rfl, _⟩ | ⟨ms', hm, _⟩
  · exact sOK_cons_eq 125 r (by decide)
  · exact ihM n w ms' r hm

theorem sokAt (fl : Flags) (hc : fl.comments = false) : ∀ fuel, SokAt fl fuel
  | 0 => ⟨fun n s v r h => by simp [parseValue] at h, fun n s xs r h => by simp [parseElems] at h,
          fun n s ms r h => by simp [parseMembers] at h⟩
  | fuel + 1 =>
    have ih := sokAt fl hc fuel
    ⟨sok_value fl hc fuel ih, sok_elems fl hc fuel ih, sok_members fl hc fuel ih⟩

theorem parseText_sOK (fl : Flags) (hc : fl.comments = false) (bs : Bytes) (v : JT) (h : parseText fl bs = some v) :
    surrogateOK bs = true := by
  simp only [parseText, hc, skipWs_dropWs] at h
  cases hv : parseValue fl ((dropWs bs).length + 1) 0 (dropWs bs) with
  | none => simp [hv] at h
  | some p =>
    obtain ⟨v', s2⟩ := p
    simp only [hv] at h
    split at h
    · rename_i heq
      rw [← sOK_dropWs_eq bs, (sokAt fl hc _).1 0 (dropWs bs) v' s2 hv, ← sOK_dropWs_eq s2, Option.some.inj heq]
      rfl
    · cases h

end JsonParser
end Model
end JV
