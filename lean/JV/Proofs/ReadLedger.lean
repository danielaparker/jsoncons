/-
  JV.Proofs.ReadLedger — the chunked `source_reader::read` keeps, iteration by iteration, "buffer size + bytes still in the source =
  bytes the source had" and "every resize so far is within one chunk of the buffer size"; hence memory follows the data supplied.
-/
import JV.Model.ReadLedger
namespace JV
namespace Model
namespace ReadLedger

def Inv (k avail0 : Nat) (s : St) : Prop :=
  s.size + s.avail = avail0 ∧ ∀ r ∈ s.ledger, r ≤ s.size + k

theorem iter_inv (k avail0 : Nat) (s : St) (h : Inv k avail0 s) : Inv k avail0 (iter k s) := by
  obtain ⟨h1, h2⟩ := h
  -- all that matters of the two minima: `actual ≤ s.avail` and `n ≤ k`
  have hn : min k s.unread ≤ k := Nat.min_le_left ..
  have ha : min (min k s.unread) s.avail ≤ s.avail := Nat.min_le_right ..
  simp only [Inv, iter]
  generalize min (min k s.unread) s.avail = actual at ha
  generalize min k s.unread = n at hn
  refine ⟨by omega, fun r hr => ?_⟩
  rw [List.mem_append] at hr
  rcases hr with hr | hr
  · have := h2 r hr
    omega
  · have : r = s.size + n ∨ r = s.size + actual := by
      split at hr <;> simp at hr <;> omega
    omega

theorem loop_inv (k avail0 : Nat) : ∀ (fuel : Nat) (s : St), Inv k avail0 s → Inv k avail0 (loop k fuel s)
  | 0, s, h => h
  | fuel + 1, s, h => by
    simp only [loop]
    split
    · exact loop_inv k avail0 fuel _ (iter_inv k avail0 s h)
    · exact h

theorem read_inv (k length avail : Nat) : Inv k avail (read k length avail) :=
  loop_inv k avail (length + 1) _ ⟨Nat.zero_add avail, fun _ hr => absurd hr List.not_mem_nil⟩

/-- memory follows the data supplied, not the length claimed: no resize ever exceeds the bytes that actually
    arrived by more than one chunk, however large `length` is -/
theorem resize_bounded (k length avail : Nat) : ∀ r ∈ (read k length avail).ledger, r ≤ avail + k := by
  intro r hr
  have h := read_inv k length avail
  have := h.2 r hr
  have := h.1
  omega

theorem size_le_supplied (k length avail : Nat) : (read k length avail).size ≤ avail := by
  have := (read_inv k length avail).1
  omega

end ReadLedger
end Model
end JV
