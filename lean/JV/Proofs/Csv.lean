/-
  JV.Proofs.Csv — the CSV field scanner reads back what the field writer wrote, for quoted fields (`scanQuoted_roundtrip`) and
  plain ones (`scanUnquoted_plain`); from these the field and row round trips (`field_roundtrip`, `row_roundtrip`), which Props.C18 restates.
-/
import JV.Model.Csv
namespace JV
namespace Model
namespace Csv

theorem isTerm_quote {o : Opts} (hc : o.Compatible) : isTerm o o.quote = false := by
  obtain ⟨h1, _, _, h4, h5, _⟩ := hc
  simp [isTerm, h4, h5, Ne.symm h1]

theorem scanQuoted_escaped {o : Opts} {d : Nat} (acc tl : Bytes) (h : d = o.quote ∨ (o.esc ≠ o.quote ∧ d = o.esc)) :
    scanQuoted o acc (o.esc :: d :: tl) = scanQuoted o (acc ++ [d]) tl := by
  rw [scanQuoted]
  rcases h with rfl | ⟨hne, rfl⟩
  · simp
  · simp [hne]

theorem scanQuoted_plain {o : Opts} {c : Nat} (acc : Bytes) {tl : Bytes} (he : c ≠ o.esc) (hq : c ≠ o.quote) (htl : tl ≠ []) :
    scanQuoted o acc (c :: tl) = scanQuoted o (acc ++ [c]) tl := by
  cases tl with
  | nil => exact absurd rfl htl
  | cons d tl => rw [scanQuoted]; simp [he, hq]

theorem scanQuoted_roundtrip (o : Opts) (hc : o.Compatible) (rest : Bytes) (hrest : rest = [] ∨ ∃ t r, rest = t :: r ∧ isTerm o t = true) :
    ∀ (s acc : Bytes), scanQuoted o acc (escapeField o true s ++ o.quote :: rest) = .ok (acc ++ s, rest)
  | [], acc => by
    simp only [escapeField, List.nil_append, List.append_nil]
    rcases hrest with rfl | ⟨t, r, rfl, ht⟩
    · simp only [scanQuoted]
      by_cases e : o.quote = o.esc
      · simp [e]
      · simp [e]
    · have htq : t ≠ o.quote := by
        intro e
        rw [e, isTerm_quote hc] at ht
        cases ht
      simp only [scanQuoted]
      by_cases e : o.quote = o.esc
      · simp [e, e ▸ htq]
      · simp [e]
  | c :: s, acc => by
    have ih := scanQuoted_roundtrip o hc rest hrest s (acc ++ [c])
    rw [List.append_assoc, List.singleton_append] at ih
    simp only [escapeField]
    by_cases hq : c = o.quote
    · subst hq
      rw [if_pos rfl, List.cons_append, List.cons_append, scanQuoted_escaped acc _ (.inl rfl), ih]
    · by_cases he : c = o.esc
      · subst he
        simp only [hq, if_false, Bool.true_and, decide_true, if_true, List.cons_append]
        rw [scanQuoted_escaped acc _ (.inr ⟨hq, rfl⟩), ih]
      · simp only [hq, he, if_false, Bool.true_and, decide_false, Bool.false_eq_true, List.cons_append]
        -- the closing quote, if nothing else, follows a plain character
        rw [scanQuoted_plain acc he hq (by simp), ih]

theorem escapeField_plain (o : Opts) (q : Bool) : ∀ (s : Bytes), (∀ c ∈ s, c ≠ o.quote) → (q = false ∨ ∀ c ∈ s, c ≠ o.esc) → escapeField o q s = s
  | [], _, _ => rfl
  | c :: s, h, h2 => by
    have hq : c ≠ o.quote := h c (by simp)
    have ih := escapeField_plain o q s (fun d hd => h d (List.mem_cons_of_mem _ hd))
      (h2.imp id (fun h' d hd => h' d (List.mem_cons_of_mem _ hd)))
    simp only [escapeField, hq, if_false]
    rcases h2 with rfl | h2
    · simp [ih]
    · have : c ≠ o.esc := h2 c (by simp)
      simp [this, ih]

theorem scanUnquoted_plain (o : Opts) (rest : Bytes) (hrest : rest = [] ∨ ∃ t r, rest = t :: r ∧ isTerm o t = true) :
    ∀ (s acc : Bytes), (∀ c ∈ s, isTerm o c = false ∧ c ≠ o.quote) → scanUnquoted o acc (s ++ rest) = .ok (false, acc ++ s, rest)
  | [], acc, _ => by
    rcases hrest with rfl | ⟨t, r, rfl, ht⟩
    · simp [scanUnquoted]
    · simp [scanUnquoted, ht]
  | c :: s, acc, h => by
    have hc := h c (by simp)
    simp only [List.cons_append, scanUnquoted, hc.1, Bool.false_eq_true, if_false, hc.2]
    rw [scanUnquoted_plain o rest hrest s (acc ++ [c]) (fun d hd => h d (List.mem_cons_of_mem _ hd))]
    simp

theorem not_needsQuote {o : Opts} {s : Bytes} (h : needsQuote o s = false) : ∀ c ∈ s, isTerm o c = false ∧ c ≠ o.quote := by
  intro c hc
  simp only [needsQuote, List.any_eq_false, Bool.or_eq_true, decide_eq_true_eq, not_or] at h
  have := h c hc
  refine ⟨?_, this.1.1.2⟩
  simp [isTerm, this.1.1.1, this.1.2, this.2]

theorem field_roundtrip (o : Opts) (hc : o.Compatible) (st : Style) (hst : st ≠ .none) (s rest : Bytes)
    (hrest : rest = [] ∨ ∃ t r, rest = t :: r ∧ isTerm o t = true) :
    scanField o (writeField o st s ++ rest) = .ok (quotes o st s, s, rest) := by
  unfold scanField writeField
  by_cases hq : quotes o st s = true
  · simp only [hq, if_true, List.cons_append, List.append_assoc, scanUnquoted]
    simp only [isTerm_quote hc, Bool.false_eq_true, if_false]
    have := scanQuoted_roundtrip o hc rest hrest s []
    simp only [List.nil_append] at this
    rw [List.nil_append, this]
  · have hq' : quotes o st s = false := by simpa using hq
    simp only [hq', Bool.false_eq_true, if_false]
    have hmin : st = .minimal ∧ needsQuote o s = false := by
      cases st <;> simp_all [quotes]
    have hplain := not_needsQuote hmin.2
    rw [escapeField_plain o false s (fun c hc' => (hplain c hc').2) (Or.inl rfl)]
    have := scanUnquoted_plain o rest hrest s [] hplain
    simpa using this

theorem row_roundtrip (o : Opts) (hc : o.Compatible) (st : Style) (hst : st ≠ .none) (tail : Bytes)
    (htail : tail = [] ∨ ∃ t r, tail = t :: r ∧ (t = 10 ∨ t = 13)) :
    ∀ (fields : List Bytes), fields ≠ [] → ∀ fuel, fields.length ≤ fuel →
      scanRow o fuel (writeRow o st fields ++ tail) = .ok (fields, tail)
  | [], h, _, _ => absurd rfl h
  | [f], _, fuel, hf => by
    cases fuel with
    | zero => simp at hf
    | succ fuel =>
      have hterm : ∀ t, t = 10 ∨ t = 13 → isTerm o t = true := by
        rintro t (rfl | rfl) <;> simp [isTerm]
      have htail' : tail = [] ∨ ∃ t r, tail = t :: r ∧ isTerm o t = true :=
        htail.imp id fun ⟨t, r, e, ht⟩ => ⟨t, r, e, hterm t ht⟩
      simp only [writeRow, scanRow, field_roundtrip o hc st hst f tail htail']
      rcases htail with rfl | ⟨t, r, rfl, ht⟩
      · rfl
      · have hd : t ≠ o.delim := by
          obtain ⟨_, h2, h3, _⟩ := hc
          rcases ht with rfl | rfl
          · exact fun e => h2 e.symm
          · exact fun e => h3 e.symm
        simp [hd, hterm t ht]
  | f :: g :: fs, _, fuel, hf => by
    cases fuel with
    | zero => simp at hf
    | succ fuel =>
      have hrest : (o.delim :: (writeRow o st (g :: fs) ++ tail)) = [] ∨
          ∃ t r, (o.delim :: (writeRow o st (g :: fs) ++ tail)) = t :: r ∧ isTerm o t = true :=
        Or.inr ⟨_, _, rfl, by simp [isTerm]⟩
      have := field_roundtrip o hc st hst f _ hrest
      simp only [writeRow, scanRow, List.append_assoc, List.cons_append, this, if_true]
      rw [row_roundtrip o hc st hst tail htail (g :: fs) (by simp) fuel (by simp at hf ⊢; omega)]

end Csv
end Model
end JV
