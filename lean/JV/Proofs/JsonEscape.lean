/-
  JV.Proofs.JsonEscape — with escape_all_non_ascii off, `escape_string` substitutes byte by byte (`escByte`), and a strict
  RFC 8259 string reader reads every substitute back as the byte it stands for.
-/
import JV.Model.JsonEscape
import JV.Spec.Rfc8259
namespace JV
namespace Model
namespace JsonEscape
open Spec.Rfc8259

theorem hexVal_hexChar (n : Nat) (h : n < 16) : hexVal (hexChar n) = some n := by
  unfold hexChar hexVal
  by_cases h10 : n < 10
  · have h1 : 48 ≤ 48 + n ∧ 48 + n ≤ 57 := by omega
    simp [h10, h1]
  · have h1 : ¬ (48 ≤ 55 + n ∧ 55 + n ≤ 57) := by omega
    have h2 : ¬ (97 ≤ 55 + n ∧ 55 + n ≤ 102) := by omega
    have h3 : 65 ≤ 55 + n ∧ 55 + n ≤ 70 := by omega
    simp only [h10, if_false, h1, h2, h3, if_true]
    have : 55 + n - 55 = n := by omega
    rw [this]; simp

theorem hexDigit_step (n k : Nat) : n / (k * 16) * 16 + n / k % 16 = n / k := by
  rw [← Nat.div_div_eq_div_mul]; exact Nat.div_add_mod' (n / k) 16

theorem hex4_u4 (cp : Nat) (h : cp < 65536) (rest : Bytes) :
    hex4 ([hexChar (cp / 4096 % 16), hexChar (cp / 256 % 16), hexChar (cp / 16 % 16), hexChar (cp % 16)] ++ rest) = some (cp, rest) := by
  simp only [List.cons_append, List.nil_append, hex4,
    hexVal_hexChar _ (Nat.mod_lt _ (by omega : 0 < 16))]
  have h3 : cp / 4096 % 16 = cp / 4096 := Nat.mod_eq_of_lt (Nat.div_lt_of_lt_mul h)
  have e2 := hexDigit_step cp 256
  have e1 := hexDigit_step cp 16
  have e0 := hexDigit_step cp 1
  simp only [Nat.reduceMul, Nat.div_one] at e2 e1 e0
  rw [h3, e2, e1, e0]

theorem parseChars_plain (fuel : Nat) (c : Nat) (cs : Bytes) (h34 : c ≠ 34) (h32 : ¬ c < 32) (h92 : c ≠ 92) :
    parseChars (fuel + 1) (c :: cs) = (parseChars fuel cs).map fun p => (c :: p.1, p.2) := by
  simp [parseChars, h34, h32, h92]

/-- the two-character escapes: `\\e` stands for the byte `b` -/
abbrev TwoChar (e b : Nat) : Prop :=
  (e = 34 ∧ b = 34) ∨ (e = 92 ∧ b = 92) ∨ (e = 47 ∧ b = 47) ∨ (e = 98 ∧ b = 8) ∨ (e = 102 ∧ b = 12) ∨
    (e = 110 ∧ b = 10) ∨ (e = 114 ∧ b = 13) ∨ (e = 116 ∧ b = 9)

theorem parseChars_simple (fuel : Nat) (e b : Nat) (cs : Bytes) (he : TwoChar e b) :
    parseChars (fuel + 1) (92 :: e :: cs) = (parseChars fuel cs).map fun p => (b :: p.1, p.2) := by
  rcases he with ⟨rfl, rfl⟩ | ⟨rfl, rfl⟩ | ⟨rfl, rfl⟩ | ⟨rfl, rfl⟩ | ⟨rfl, rfl⟩ | ⟨rfl, rfl⟩ | ⟨rfl, rfl⟩ | ⟨rfl, rfl⟩ <;>
    simp [parseChars]

theorem parseChars_u_ascii (fuel : Nat) (c : Nat) (hc : c < 128) (cs : Bytes) :
    parseChars (fuel + 1) (u4 c ++ cs) = (parseChars fuel cs).map fun p => (c :: p.1, p.2) := by
  have h := hex4_u4 c (by omega) cs
  simp only [u4, List.cons_append, List.nil_append] at h ⊢
  simp only [parseChars, show (92:Nat) ≠ 34 by decide, show ¬ (92:Nat) < 32 by decide, if_false, if_true,
    show (117:Nat) ≠ 34 by decide, show (117:Nat) ≠ 92 by decide, show (117:Nat) ≠ 47 by decide, show (117:Nat) ≠ 98 by decide,
    show (117:Nat) ≠ 102 by decide, show (117:Nat) ≠ 110 by decide, show (117:Nat) ≠ 114 by decide, show (117:Nat) ≠ 116 by decide, h]
  have h1 : ¬ (0xD800 ≤ c ∧ c ≤ 0xDBFF) := by omega
  have h2 : ¬ (0xDC00 ≤ c ∧ c ≤ 0xDFFF) := by omega
  have h3 : utf8Encode c = [c] := by simp [utf8Encode, hc]
  simp [h1, h2, h3]

/-- what `escape_string` writes for the byte `c` when escape_all_non_ascii is off (bytes ≥ 0x80 pass through untouched) -/
def escByte (sol : Bool) (c : Nat) : Bytes :=
  if c = 92 then [92, 92] else if c = 34 then [92, 34] else if c = 8 then [92, 98] else if c = 12 then [92, 102]
  else if c = 10 then [92, 110] else if c = 13 then [92, 114] else if c = 9 then [92, 116]
  else if sol && c = 47 then [92, 47] else if isControl c then u4 c else [c]

theorem isControl_lt {c : Nat} (h : isControl c = true) : c < 128 := by
  simp only [isControl, Bool.or_eq_true, decide_eq_true_eq] at h; omega

/-- the bytes `escape_string` tests for one after the other, or none of them -/
theorem special_or (sol : Bool) (c : Nat) :
    c = 92 ∨ c = 34 ∨ c = 8 ∨ c = 12 ∨ c = 10 ∨ c = 13 ∨ c = 9 ∨ (sol = true ∧ c = 47) ∨
    (c ≠ 92 ∧ c ≠ 34 ∧ c ≠ 8 ∧ c ≠ 12 ∧ c ≠ 10 ∧ c ≠ 13 ∧ c ≠ 9 ∧ (sol && decide (c = 47)) = false) := by
  -- if none of the first eight alternatives holds, the ninth collects their negations
  apply Classical.byContradiction
  intro h
  simp only [not_or] at h
  obtain ⟨h92, h34, h8, h12, h10, h13, h9, hs, hl⟩ := h
  exact hl ⟨h92, h34, h8, h12, h10, h13, h9, by cases sol <;> simp_all⟩

theorem escape_cons (sol : Bool) (fuel c : Nat) (cs : Bytes) :
    escape false sol (fuel + 1) (c :: cs) = (escape false sol fuel cs).map (escByte sol c ++ ·) := by
  rcases special_or sol c with rfl | rfl | rfl | rfl | rfl | rfl | rfl | ⟨rfl, rfl⟩ | ⟨h92, h34, h8, h12, h10, h13, h9, hs⟩
  -- for each of the eight special bytes both sides evaluate
  any_goals rfl
  by_cases hctl : isControl c = true
  · -- a control character is ASCII: `to_codepoint` returns it with length 1, and it is written as \u00XX
    have hlt := isControl_lt hctl
    have htc : toCodepoint (c :: cs) = some (c, 1) := by simp [toCodepoint, show c < 0x80 from hlt]
    have hnot : ¬ (c > 0xFFFF) := by omega
    simp only [escape, escByte, h92, h34, h8, h12, h10, h13, h9, hs, hctl, htc, hnot, if_false, if_true, Bool.or_true,
      Bool.or_false, Bool.false_eq_true, List.drop_one, List.tail_cons]
  · simp only [escape, escByte, h92, h34, h8, h12, h10, h13, h9, hs, hctl, if_false, Bool.or_false, Bool.false_eq_true]
    rfl

theorem escapeString_eq (sol : Bool) (s : Bytes) : escapeString false sol s = some (s.flatMap (escByte sol)) := by
  unfold escapeString
  induction s with
  | nil => rfl
  | cons c cs ih => rw [List.length_cons, escape_cons, ih]; rfl

theorem escByte_cases (sol : Bool) (c : Nat) :
    (∃ e, escByte sol c = [92, e] ∧ TwoChar e c) ∨
    (escByte sol c = u4 c ∧ c < 128) ∨ (escByte sol c = [c] ∧ c ≠ 34 ∧ ¬ c < 32 ∧ c ≠ 92) := by
  rcases special_or sol c with rfl | rfl | rfl | rfl | rfl | rfl | rfl | ⟨rfl, rfl⟩ | ⟨h92, h34, h8, h12, h10, h13, h9, hs⟩
  any_goals exact Or.inl ⟨_, rfl, by decide⟩
  by_cases hctl : isControl c = true
  · exact Or.inr (Or.inl ⟨by simp only [escByte, h92, h34, h8, h12, h10, h13, h9, hs, hctl, if_false, if_true, Bool.false_eq_true],
      isControl_lt hctl⟩)
  · refine Or.inr (Or.inr ⟨by simp only [escByte, h92, h34, h8, h12, h10, h13, h9, hs, hctl, if_false, Bool.false_eq_true], h34, ?_, h92⟩)
    simp only [isControl, Bool.or_eq_true, decide_eq_true_eq, not_or] at hctl; omega

/-- one escaped byte costs the reader one unit of fuel -/
theorem parseChars_escByte (sol : Bool) (fuel c : Nat) (rest : Bytes) :
    parseChars (fuel + 1) (escByte sol c ++ rest) = (parseChars fuel rest).map fun p => (c :: p.1, p.2) := by
  rcases escByte_cases sol c with ⟨e, h, he⟩ | ⟨h, hlt⟩ | ⟨h, h34, h32, h92⟩ <;> rw [h]
  · exact parseChars_simple fuel e c rest he
  · exact parseChars_u_ascii fuel c hlt rest
  · exact parseChars_plain fuel c rest h34 h32 h92

theorem escByte_ne_nil (sol : Bool) (c : Nat) : 0 < (escByte sol c).length := by
  rcases escByte_cases sol c with ⟨e, h, _⟩ | ⟨h, _⟩ | ⟨h, _⟩ <;> rw [h] <;> simp [u4]

theorem escaped_reads_back (sol : Bool) : ∀ (s rest : Bytes) (fuel : Nat), (s.flatMap (escByte sol)).length + 1 ≤ fuel →
    parseChars fuel (s.flatMap (escByte sol) ++ 34 :: rest) = some (s, rest)
  | [], rest, fuel, hf => by
    obtain ⟨f, rfl⟩ : ∃ f, fuel = f + 1 := ⟨fuel - 1, by omega⟩
    simp [parseChars]
  | c :: cs, rest, fuel, hf => by
    obtain ⟨f, rfl⟩ : ∃ f, fuel = f + 1 := ⟨fuel - 1, by omega⟩
    have := escByte_ne_nil sol c
    rw [List.flatMap_cons, List.length_append] at hf
    rw [List.flatMap_cons, List.append_assoc, parseChars_escByte, escaped_reads_back sol cs rest f (by omega)]
    rfl

end JsonEscape
end Model
end JV
