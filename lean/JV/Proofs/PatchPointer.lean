/-
  `DocInv o P`: `P` is kept by navigation (`child`, `setChild`) and by `finalStep`, hence by `get`, `put` and
  `apply`.  The two representation invariants (sorted objects, unique keys) are of the form `Level P K` —
  every element and member value satisfies `P`, every member list `K` — and one analysis of `finalStep`
  shows both are `DocInv`s.
-/
import JV.Proofs.PointerOps
import JV.Proofs.JValLemmas
import JV.Proofs.Dom
import JV.Model.Patch
namespace JV
namespace Model
namespace Pointer
open Assoc

def Final.Val (P : JVal → Prop) : Final → Prop
  | .add v | .addIfAbsent v | .replace v => P v
  | .remove => True

theorem forall_mem_onList {Q : JVal → Prop} {f : Final} {xs : List JVal} (hf : f.Val Q) (h : ∀ y ∈ xs, Q y) (i : Nat) :
    ∀ y ∈ f.onList i xs, Q y := by
  cases f with
  | add v | addIfAbsent v => exact forall_mem_insertAt h hf i
  | replace v => exact forall_mem_set h hf i
  | remove => exact forall_mem_eraseIdx h i

structure DocInv (o : Bool) (P : JVal → Prop) : Prop where
  child : ∀ {d : JVal} {tok : Bytes} {c : JVal}, P d → child d tok = .ok c → P c
  setChild : ∀ {d : JVal} {tok : Bytes} {c x : JVal}, P d → Pointer.child d tok = .ok c → P x → P (setChild d tok x)
  finalStep : ∀ {f : Final} {c : JVal} (k : Bytes), f.Val P → P c → P (finalStep o false f c k).2

namespace DocInv
variable {o : Bool} {P : JVal → Prop} (hP : DocInv o P)
include hP

theorem get : ∀ (loc : List Bytes) {d v : JVal}, P d → get d loc = .ok v → P v
  | [], d, v, hd, h => by rw [get_nil] at h; exact Except.ok.inj h ▸ hd
  | tok :: rest, d, v, hd, h => by
    obtain ⟨c, hc, h⟩ := get_cons_ok h
    exact DocInv.get rest (hP.child hd hc) h

theorem put : ∀ (loc : List Bytes) {d x : JVal}, P d → P x → P (put d loc x)
  | [], d, x, _, hx => by rw [put_nil]; exact hx
  | tok :: rest, d, x, hd, hx => by
    cases hc : Pointer.child d tok with
    | error e => rw [put_cons_err hc]; exact hd
    | ok c => rw [put_cons_ok hc]; exact hP.setChild hd hc (DocInv.put rest (hP.child hd hc) hx)

theorem apply {f : Final} (hf : f.Val P) {d : JVal} (hd : P d) (p : List Bytes) : P (apply o false f d p).2 := by
  rcases List.eq_nil_or_concat p with rfl | ⟨loc, k, rfl⟩
  · cases f <;> first | exact hf | exact hd
  · rw [List.concat_eq_append, apply_snoc]
    cases hg : Pointer.get d loc with
    | error e => exact hd
    | ok c => exact hP.put loc hd (hP.finalStep k hf (hP.get loc hd hg))

end DocInv

section level
variable {Q : JVal → Prop} {K : List (Bytes × JVal) → Prop} {k : Bytes} {v : JVal} {p : Bytes × JVal}

def Level (Q : JVal → Prop) (K : List (Bytes × JVal) → Prop) : JVal → Prop
  | .arr xs => ∀ x ∈ xs, Q x
  | .obj ms => K ms ∧ ∀ p ∈ ms, Q p.2
  | _ => True

structure KeysInv (o : Bool) (K : List (Bytes × JVal) → Prop) : Prop where
  replaceVal : ∀ {ms : List (Bytes × JVal)} (k : Bytes) (v : JVal), K ms → K (replaceVal k v ms)
  insertOrAssign : ∀ {ms : List (Bytes × JVal)} (k : Bytes) (v : JVal), K ms → K (insertOrAssign o k v ms)
  erase : ∀ {ms : List (Bytes × JVal)} (k : Bytes), K ms → K (erase k ms)

theorem child_level {d c : JVal} {tok : Bytes} (hd : Level Q K d) (hc : child d tok = .ok c) : Q c := by
  rcases child_ok hc with ⟨xs, i, rfl, _, _, hx⟩ | ⟨ms, rfl, hf⟩
  · exact hd c (List.mem_of_getElem? hx)
  · exact hd.2 _ (mem_of_find hf)

theorem setChild_level {o : Bool} (hK : KeysInv o K) {d x : JVal} (tok : Bytes) (hd : Level Q K d) (hx : Q x) :
    Level Q K (setChild d tok x) := by
  cases d with
  | arr xs =>
    simp only [setChild]
    split
    · exact hd
    · exact forall_mem_set hd hx _
  | obj ms => exact ⟨hK.replaceVal tok x hd.1, fun p hp => (mem_replaceVal hp).elim (hd.2 p) (· ▸ hx)⟩
  | _ => exact hd

theorem finalStep_level {o : Bool} (hK : KeysInv o K) {f : Final} (hf : f.Val Q) {c : JVal} (hc : Level Q K c)
    (create : Bool) (k : Bytes) : Level Q K (finalStep o create f c k).2 := by
  cases c with
  | arr xs =>
    rw [finalStep_arr]
    cases slot f.isAdd xs.length k with
    | error e => exact hc
    | ok i => exact forall_mem_onList hf hc i
  | obj ms =>
    rw [finalStep_obj]
    cases f.memberErr create (find k ms).isSome with
    | some e => exact hc
    | none =>
      cases f with
      | add v | addIfAbsent v | replace v =>
        exact ⟨hK.insertOrAssign k v hc.1, fun p hp => (mem_insertOrAssign o hp).elim (hc.2 p) (· ▸ hf)⟩
      | remove => exact ⟨hK.erase k hc.1, fun p hp => hc.2 p (mem_erase hp)⟩
  | _ => exact hc

theorem DocInv.of_level {o : Bool} {P : JVal → Prop} (hiff : ∀ d, P d ↔ Level P K d) (hK : KeysInv o K) : DocInv o P where
  child := fun hd hc => child_level ((hiff _).1 hd) hc
  setChild := fun hd _ hx => (hiff _).2 (setChild_level hK _ ((hiff _).1 hd) hx)
  finalStep := fun k hf hc => (hiff _).2 (finalStep_level hK hf ((hiff _).1 hc) false k)

end level

end Pointer
end Model
end JV
