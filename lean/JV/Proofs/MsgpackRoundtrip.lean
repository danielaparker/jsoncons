/-
  JV.Proofs.MsgpackRoundtrip — what the MessagePack encoder model writes, the reference MessagePack decoder
  (JV.Spec.Msgpack, the one the real decoder is judged by in C07) reads back.
-/
import JV.Model.Msgpack
import JV.Proofs.CborRoundtrip
import JV.Spec.BinFormats
import JV.Proofs.MsgpackSpec
namespace JV
namespace Model
namespace Msgpack
open Spec Spec.Msgpack
open Spec.Cbor (BV Res beVal f32ToF64)
open Cbor (CV beBytes narrowF32 toBV toBVList toBVMembers need needList needMembers need_pos DoubleOK beVal_beBytes)

theorem item_int (fuel : Nat) (i : Int) (rest : Bytes) (hlo : -(2 ^ 63 : Int) ≤ i) (hhi : i < 2 ^ 64) :
    item (fuel + 1) (writeInt i ++ rest) = .ok (.int i "") rest := by
  unfold writeInt
  by_cases hv : i ≥ 0
  · have e : ((i.toNat : Nat) : Int) = i := Int.toNat_of_nonneg hv
    simp only [hv, if_true]
    by_cases h1 : i.toNat ≤ 0x7f
    · simp only [h1, if_true, List.cons_append, List.nil_append]
      rw [spec_posfix fuel _ _ h1, e]
    by_cases h2 : i.toNat ≤ 0xff
    · simp only [h1, h2, if_true, if_false, List.cons_append, List.nil_append]
      rw [spec_uint fuel 0 (by omega), lenThen_one, e]
    by_cases h3 : i.toNat ≤ 0xffff
    · simp only [h1, h2, h3, if_true, if_false, List.cons_append]
      rw [spec_uint fuel 1 (by omega), lenThen_beBytes _ _ _ _ (by omega), e]
    by_cases h4 : i.toNat ≤ 0xffffffff
    · simp only [h1, h2, h3, h4, if_true, if_false, List.cons_append]
      rw [spec_uint fuel 2 (by omega), lenThen_beBytes _ _ _ _ (by omega), e]
    · simp only [h1, h2, h3, h4, if_false, List.cons_append]
      rw [spec_uint fuel 3 (by omega), lenThen_beBytes _ _ _ _ (by omega), e]
  · simp only [hv, if_false]
    by_cases h1 : i ≥ -32
    · simp only [h1, if_true, List.cons_append, List.nil_append]
      rw [spec_negfix fuel _ _ (by omega), show (((256 + i).toNat : Nat) : Int) - 256 = i by omega]
    by_cases h2 : i ≥ -128
    · simp only [h1, h2, if_true, if_false, List.cons_append, List.nil_append]
      rw [spec_sint fuel 0 (by omega), lenThen_one, toSigned_neg 7 256 i (by decide) (by omega) (by omega)]
    by_cases h3 : i ≥ -32768
    · simp only [h1, h2, h3, if_true, if_false, List.cons_append]
      rw [spec_sint fuel 1 (by omega), lenThen_beBytes _ _ _ _ (by omega),
        toSigned_neg 15 65536 i (by decide) (by omega) (by omega)]
    by_cases h4 : i ≥ -2147483648
    · simp only [h1, h2, h3, h4, if_true, if_false, List.cons_append]
      rw [spec_sint fuel 2 (by omega), lenThen_beBytes _ _ _ _ (by omega),
        toSigned_neg 31 4294967296 i (by decide) (by omega) (by omega)]
    · simp only [h1, h2, h3, h4, if_false, List.cons_append]
      rw [spec_sint fuel 3 (by omega), lenThen_beBytes _ _ _ _ (by omega),
        toSigned_neg 63 18446744073709551616 i (by decide) (by omega) (by omega)]

theorem item_double (fuel : Nat) (b : Nat) (rest : Bytes) (h : DoubleOK b) :
    item (fuel + 1) (encodeDouble b ++ rest) = .ok (.dbl b "") rest := by
  unfold encodeDouble
  cases hn : narrowF32 b with
  | none => rw [List.cons_append, spec_f64, lenThen_beBytes _ _ _ _ h.1]
  | some f =>
    obtain ⟨hf, hw⟩ := h.2 f hn
    rw [List.cons_append, spec_f32, lenThen_beBytes _ _ _ _ hf, hw]

theorem item_text (fuel : Nat) (s rest : Bytes) (hl : s.length < 2 ^ 32) (hv : Rfc8259.validUtf8 s = true) :
    item (fuel + 1) (strHead s.length ++ s ++ rest) = .ok (.str s "") rest := by
  unfold strHead
  by_cases h1 : s.length ≤ 31
  · simp only [h1, if_true, List.cons_append, List.nil_append]
    rw [spec_fixstr fuel _ _ (by omega) (by omega), Nat.add_sub_cancel_left, strOf_ok s rest hv]
  by_cases h2 : s.length ≤ 0xff
  · simp only [h1, h2, if_true, if_false, List.cons_append, List.nil_append]
    rw [spec_str fuel 0 (by omega), lenThen_one, strOf_ok s rest hv]
  by_cases h3 : s.length ≤ 0xffff
  · simp only [h1, h2, h3, if_true, if_false, List.cons_append, List.append_assoc]
    rw [spec_str fuel 1 (by omega), lenThen_beBytes _ _ _ _ (by omega), strOf_ok s rest hv]
  · simp only [h1, h2, h3, show s.length ≤ 0xffffffff by omega, if_true, if_false, List.cons_append, List.append_assoc]
    rw [spec_str fuel 2 (by omega), lenThen_beBytes _ _ _ _ (by omega), strOf_ok s rest hv]

theorem item_bytes (fuel : Nat) (b rest : Bytes) (hl : b.length < 2 ^ 32) :
    item (fuel + 1) (binHead b.length ++ b ++ rest) = .ok (.bytes b "") rest := by
  unfold binHead
  by_cases h2 : b.length ≤ 0xff
  · simp only [h2, if_true, List.cons_append, List.nil_append]
    rw [spec_bin fuel 0 (by omega), lenThen_one, binOf_ok]
  by_cases h3 : b.length ≤ 0xffff
  · simp only [h2, h3, if_true, if_false, List.cons_append, List.append_assoc]
    rw [spec_bin fuel 1 (by omega), lenThen_beBytes _ _ _ _ (by omega), binOf_ok]
  · simp only [h2, h3, show b.length ≤ 0xffffffff by omega, if_true, if_false, List.cons_append, List.append_assoc]
    rw [spec_bin fuel 2 (by omega), lenThen_beBytes _ _ _ _ (by omega), binOf_ok]

theorem item_arrHead (fuel n : Nat) (body : Bytes) (hn : n < 2 ^ 32) :
    item (fuel + 1) (arrHead n ++ body) = wrapArr (items fuel n body) := by
  unfold arrHead
  by_cases h1 : n ≤ 15
  · simp only [h1, if_true, List.cons_append, List.nil_append]
    rw [spec_fixarr fuel _ _ (by omega) (by omega), Nat.add_sub_cancel_left]
  by_cases h3 : n ≤ 0xffff
  · simp only [h1, h3, if_true, if_false, List.cons_append]
    rw [spec_arr fuel 0 (by omega), lenThen_beBytes _ _ _ _ (by omega)]
  · simp only [h1, h3, show n ≤ 0xffffffff by omega, if_true, if_false, List.cons_append]
    rw [spec_arr fuel 1 (by omega), lenThen_beBytes _ _ _ _ (by omega)]

theorem item_mapHead (fuel n : Nat) (body : Bytes) (hn : n < 2 ^ 32) :
    item (fuel + 1) (mapHead n ++ body) = wrapMap (members fuel n body) := by
  unfold mapHead
  by_cases h1 : n ≤ 15
  · simp only [h1, if_true, List.cons_append, List.nil_append]
    rw [spec_fixmap fuel _ _ (by omega) (by omega), Nat.add_sub_cancel_left]
  by_cases h3 : n ≤ 0xffff
  · simp only [h1, h3, if_true, if_false, List.cons_append]
    rw [spec_map fuel 0 (by omega), lenThen_beBytes _ _ _ _ (by omega)]
  · simp only [h1, h3, show n ≤ 0xffffffff by omega, if_true, if_false, List.cons_append]
    rw [spec_map fuel 1 (by omega), lenThen_beBytes _ _ _ _ (by omega)]

mutual
  /-- integers in [-2^63, 2^64), doubles on which the float32 shortcut is lossless (see `float32_shortcut_lossless`),
      valid UTF-8 text, and every length below 2^32 (the widest length field of the format is 32 bits) -/
  def OKm : CV → Prop
    | .int i => -(2 ^ 63 : Int) ≤ i ∧ i < 2 ^ 64
    | .dbl b => DoubleOK b
    | .str s => s.length < 2 ^ 32 ∧ Spec.Rfc8259.validUtf8 s = true
    | .bytes b => b.length < 2 ^ 32
    | .arr xs => xs.length < 2 ^ 32 ∧ OKmList xs
    | .map ms => ms.length < 2 ^ 32 ∧ OKmMembers ms
    | _ => True
  def OKmList : List CV → Prop
    | [] => True
    | x :: xs => OKm x ∧ OKmList xs
  def OKmMembers : List (Bytes × CV) → Prop
    | [] => True
    | (k, x) :: ms => (k.length < 2 ^ 32 ∧ Spec.Rfc8259.validUtf8 k = true) ∧ OKm x ∧ OKmMembers ms
end

mutual
  theorem enc_dec : ∀ (v : CV) (rest : Bytes) (fuel : Nat), OKm v → need v ≤ fuel →
      item fuel (encode v ++ rest) = .ok (toBV v) rest
    | v, _, 0, _, hf => absurd hf (Nat.not_le_of_gt (need_pos v))
    | .null, rest, f + 1, _, _ => by simp [encode, item, toBV]
    | .bool b, rest, f + 1, _, _ => by cases b <;> simp [encode, item, toBV]
    | .int i, rest, f + 1, h, _ => item_int f i rest h.1 h.2
    | .dbl b, rest, f + 1, h, _ => item_double f b rest h
    | .str s, rest, f + 1, h, _ => item_text f s rest h.1 h.2
    | .bytes b, rest, f + 1, h, _ => item_bytes f b rest h
    | .arr xs, rest, f + 1, h, hf => by
      have hf : 1 + needList xs ≤ f + 1 := hf
      rw [encode, List.append_assoc, item_arrHead f _ _ h.1, encList_dec xs rest f h.2 (by omega)]
      rfl
    | .map ms, rest, f + 1, h, hf => by
      have hf : 1 + needMembers ms ≤ f + 1 := hf
      rw [encode, List.append_assoc, item_mapHead f _ _ h.1, encMembers_dec ms rest f h.2 (by omega)]
      rfl
  theorem encList_dec : ∀ (xs : List CV) (rest : Bytes) (fuel : Nat), OKmList xs → needList xs ≤ fuel →
      items fuel xs.length (encodeList xs ++ rest) = .ok (toBVList xs) rest
    | [], rest, fuel, _, _ => by cases fuel <;> simp [items, encodeList, toBVList]
    | x :: xs, rest, 0, _, hf => absurd hf (by simp [needList])
    | x :: xs, rest, f + 1, h, hf => by
      have hf : 1 + max (need x) (needList xs) ≤ f + 1 := hf
      have i1 := enc_dec x (encodeList xs ++ rest) f h.1 (by omega)
      have i2 := encList_dec xs rest f h.2 (by omega)
      simp only [encodeList, List.length_cons, items, List.append_assoc, i1, i2, toBVList]
  theorem encMembers_dec : ∀ (ms : List (Bytes × CV)) (rest : Bytes) (fuel : Nat), OKmMembers ms → needMembers ms ≤ fuel →
      members fuel ms.length (encodeMembers ms ++ rest) = .ok (toBVMembers ms) rest
    | [], rest, fuel, _, _ => by cases fuel <;> simp [members, encodeMembers, toBVMembers]
    | (k, x) :: ms, rest, fuel, h, hf => by
      have hf : 1 + max 1 (max (need x) (needMembers ms)) ≤ fuel := hf
      obtain ⟨g, rfl⟩ : ∃ g, fuel = g + 2 := ⟨fuel - 2, by omega⟩
      have ik := item_text g k (encode x ++ encodeMembers ms ++ rest) h.1.1 h.1.2
      have i1 := enc_dec x (encodeMembers ms ++ rest) (g + 1) h.2.1 (by omega)
      have i2 := encMembers_dec ms rest (g + 1) h.2.2 (by omega)
      simp only [encodeMembers, List.length_cons, members, List.append_assoc] at ik ⊢
      simp only [ik, i1, i2, toBVMembers]
end

end Msgpack
end Model
end JV
