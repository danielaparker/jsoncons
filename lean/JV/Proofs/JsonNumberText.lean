/-
  JV.Proofs.JsonNumberText — the RFC 8259 number reader `Spec.Rfc8259.parseNumber` is local: what it returns depends only on
  the text up to the first byte that cannot continue a number. Used by the document round trip (Proofs/JsonEncodeParse);
  the number sub-automaton of the parser model (Proofs/JsonParserNumber) is compared with the same stages.
-/
import JV.Spec.Rfc8259
namespace JV
namespace Spec
namespace Rfc8259

/-- `rest` cannot continue a number -/
def Stop (rest : Bytes) : Prop :=
  ∀ c r, rest = c :: r → isDigit c = false ∧ c ≠ 46 ∧ c ≠ 101 ∧ c ≠ 69 ∧ c ≠ 43 ∧ c ≠ 45

theorem stop_nil : Stop [] := by intro c r h; cases h

theorem stop_cons (c : Nat) (r : Bytes) (h : isDigit c = false ∧ c ≠ 46 ∧ c ≠ 101 ∧ c ≠ 69 ∧ c ≠ 43 ∧ c ≠ 45) : Stop (c :: r) := by
  intro c' r' e; cases e; exact h

def NumCh (c : Nat) : Prop := isDigit c = true ∨ c = 45 ∨ c = 43 ∨ c = 46 ∨ c = 101 ∨ c = 69

theorem takeDigits_append (rest : Bytes) (hr : Stop rest) : ∀ s : Bytes,
    takeDigits (s ++ rest) = ((takeDigits s).1, (takeDigits s).2 ++ rest)
  | [] => by
    cases rest with
    | nil => simp [takeDigits]
    | cons c r => simp [takeDigits, (hr c r rfl).1]
  | c :: cs => by
    by_cases hd : isDigit c = true
    · simp [takeDigits, hd, takeDigits_append rest hr cs]
    · simp [takeDigits, hd]

theorem takeDigits_split : ∀ bs : Bytes, (takeDigits bs).1 ++ (takeDigits bs).2 = bs
  | [] => rfl
  | d :: ds => by
    by_cases hd : isDigit d = true
    · simp [takeDigits, hd, takeDigits_split ds]
    · simp [takeDigits, hd]

theorem takeDigits_chars : ∀ (s : Bytes), ∀ c ∈ (takeDigits s).1, NumCh c
  | [], c, h => by simp [takeDigits] at h
  | d :: ds, c, h => by
    by_cases hd : isDigit d = true
    · simp only [takeDigits, hd, if_true, List.mem_cons] at h
      rcases h with rfl | h
      · exact Or.inl hd
      · exact takeDigits_chars ds c h
    · simp [takeDigits, hd] at h

/-! ### `parseNumber` in four stages: sign, integer part, fraction, exponent -/
def pSign (s : Bytes) : Bytes × Bytes :=
  match s with
  | 45 :: r => ([45], r)
  | _ => ([], s)

def pInt (s1 : Bytes) : Option (Bytes × Bytes) :=
  match s1 with
  | [] => none
  | c :: cs =>
    if c = 48 then some ([48], cs)
    else if 49 ≤ c ∧ c ≤ 57 then let r := takeDigits cs; some (c :: r.1, r.2)
    else none

def pFrac (s2 : Bytes) : Option (Bytes × Bytes) :=
  match s2 with
  | 46 :: r => let d := takeDigits r; if d.1 = [] then none else some (46 :: d.1, d.2)
  | _ => some ([], s2)

def pExp (s3 : Bytes) : Option (Bytes × Bytes) :=
  match s3 with
  | e :: r =>
    if e = 101 || e = 69 then
      let (sg, r1) := match r with
        | 43 :: r' => ([43], r')
        | 45 :: r' => ([45], r')
        | _ => ([], r)
      let d := takeDigits r1
      if d.1 = [] then none else some (e :: sg ++ d.1, d.2)
    else some ([], s3)
  | [] => some ([], s3)

def afterSign (sg s1 : Bytes) : Option (Bytes × Bytes) :=
  match pInt s1 with
  | none => none
  | some (ip, s2) =>
    match pFrac s2 with
    | none => none
    | some (fp, s3) =>
      match pExp s3 with
      | none => none
      | some (ep, s4) => some (sg ++ ip ++ fp ++ ep, s4)

theorem pSign_pos (c : Nat) (cs : Bytes) (h : c ≠ 45) : pSign (c :: cs) = ([], c :: cs) := by
  unfold pSign
  split
  · rename_i heq; cases heq; exact absurd rfl h
  · rfl

theorem parseNumber_afterSign (s : Bytes) : parseNumber s = afterSign (pSign s).1 (pSign s).2 := by
  match s with
  | [] => rfl
  | c :: cs =>
    by_cases h : c = 45
    · subst h; cases cs <;> rfl
    · rw [pSign_pos c cs h]
      unfold parseNumber
      split
      rename_i x sg r1 heq
      split at heq
      · rename_i h2; cases h2; exact absurd rfl h
      · cases heq
        rfl

theorem afterSign_some {sg s l t : Bytes} (h : afterSign sg s = some (l, t)) :
    ∃ ip s2 fp s3 ep, pInt s = some (ip, s2) ∧ pFrac s2 = some (fp, s3) ∧ pExp s3 = some (ep, t) ∧ l = sg ++ ip ++ fp ++ ep := by
  unfold afterSign at h
  rcases h1 : pInt s with _ | ⟨ip, s2⟩ <;> simp only [h1, reduceCtorEq] at h
  rcases h2 : pFrac s2 with _ | ⟨fp, s3⟩ <;> simp only [h2, reduceCtorEq] at h
  rcases h3 : pExp s3 with _ | ⟨ep, s4⟩ <;> simp only [h3, reduceCtorEq, Option.some.injEq, Prod.mk.injEq] at h
  exact ⟨ip, s2, fp, s3, ep, rfl, h2, h.2 ▸ h3, h.1.symm⟩

theorem pFrac_other (c : Nat) (cs : Bytes) (h : c ≠ 46) : pFrac (c :: cs) = some ([], c :: cs) := by
  unfold pFrac
  split
  · rename_i heq; cases heq; exact absurd rfl h
  · rfl

def eSign (r : Bytes) : Bytes × Bytes :=
  match r with
  | 43 :: r' => ([43], r')
  | 45 :: r' => ([45], r')
  | _ => ([], r)

theorem eSign_other (c : Nat) (r : Bytes) (h43 : c ≠ 43) (h45 : c ≠ 45) : eSign (c :: r) = ([], c :: r) := by
  unfold eSign
  split
  · rename_i heq; cases heq; exact absurd rfl h43
  · rename_i heq; cases heq; exact absurd rfl h45
  · rfl

theorem pExp_cons (e : Nat) (r : Bytes) : pExp (e :: r) =
    if e = 101 || e = 69 then
      (if (takeDigits (eSign r).2).1 = [] then none else some (e :: (eSign r).1 ++ (takeDigits (eSign r).2).1, (takeDigits (eSign r).2).2))
    else some ([], e :: r) := by
  unfold pExp eSign
  rfl

/-- in front of text that cannot continue a number, every optional stage reads nothing -/
theorem Stop.nothing {rest : Bytes} (hr : Stop rest) :
    pSign rest = ([], rest) ∧ pFrac rest = some ([], rest) ∧ eSign rest = ([], rest) ∧ pExp rest = some ([], rest) := by
  cases rest with
  | nil => exact ⟨rfl, rfl, rfl, rfl⟩
  | cons c r =>
    obtain ⟨_, h46, h101, h69, h43, h45⟩ := hr c r rfl
    exact ⟨pSign_pos c r h45, pFrac_other c r h46, eSign_other c r h43 h45, by simp [pExp_cons, h101, h69]⟩

/-- the reader `p` takes `a` off the front of `s` and leaves `t`; `a` consists of number characters; and `p` reads the same
    when text that cannot continue a number follows `s` -/
def Reads (p : Bytes → Option (Bytes × Bytes)) (s a t : Bytes) : Prop :=
  s = a ++ t ∧ (∀ c ∈ a, NumCh c) ∧ ∀ rest, Stop rest → p (s ++ rest) = some (a, t ++ rest)

theorem pSign_reads (s : Bytes) : Reads (fun s => some (pSign s)) s (pSign s).1 (pSign s).2 := by
  match s with
  | [] => exact ⟨rfl, nofun, fun rest hr => congrArg some hr.nothing.1⟩
  | c :: cs =>
    by_cases h : c = 45
    · subst h
      exact ⟨rfl, List.forall_mem_cons.2 ⟨Or.inr (Or.inl rfl), nofun⟩, fun rest hr => rfl⟩
    · rw [pSign_pos c cs h]
      exact ⟨rfl, nofun, fun rest hr => congrArg some (pSign_pos c _ h)⟩

theorem eSign_reads (s : Bytes) : Reads (fun s => some (eSign s)) s (eSign s).1 (eSign s).2 := by
  match s with
  | [] => exact ⟨rfl, nofun, fun rest hr => congrArg some hr.nothing.2.2.1⟩
  | c :: cs =>
    by_cases h43 : c = 43
    · subst h43
      exact ⟨rfl, List.forall_mem_cons.2 ⟨Or.inr (Or.inr (Or.inl rfl)), nofun⟩, fun rest hr => rfl⟩
    · by_cases h45 : c = 45
      · subst h45
        exact ⟨rfl, List.forall_mem_cons.2 ⟨Or.inr (Or.inl rfl), nofun⟩, fun rest hr => rfl⟩
      · rw [eSign_other c cs h43 h45]
        exact ⟨rfl, nofun, fun rest hr => congrArg some (eSign_other c _ h43 h45)⟩

theorem pInt_digit {c : Nat} {cs a t : Bytes} (h : pInt (c :: cs) = some (a, t)) : isDigit c = true := by
  simp only [pInt] at h
  simp only [isDigit, Bool.and_eq_true, decide_eq_true_eq]
  split at h
  · omega
  · split at h
    · omega
    · cases h

theorem pInt_reads {s a t : Bytes} (h : pInt s = some (a, t)) : Reads pInt s a t := by
  match s with
  | [] => cases h
  | c :: cs =>
    have hc : NumCh c := Or.inl (pInt_digit h)
    simp only [pInt] at h
    split at h
    · rename_i h48
      cases h; subst h48
      exact ⟨rfl, List.forall_mem_cons.2 ⟨hc, nofun⟩, fun rest hr => rfl⟩
    · rename_i h48
      split at h
      · rename_i h19
        cases h
        exact ⟨by simp [takeDigits_split], List.forall_mem_cons.2 ⟨hc, takeDigits_chars cs⟩,
          fun rest hr => by simp [pInt, h48, h19, takeDigits_append rest hr]⟩
      · cases h

theorem pFrac_reads {s a t : Bytes} (h : pFrac s = some (a, t)) : Reads pFrac s a t := by
  match s with
  | [] => cases h; exact ⟨rfl, nofun, fun rest hr => hr.nothing.2.1⟩
  | c :: cs =>
    by_cases h46 : c = 46
    · subst h46
      simp only [pFrac] at h
      split at h
      · cases h
      · rename_i hd
        cases h
        exact ⟨by simp [takeDigits_split], List.forall_mem_cons.2 ⟨Or.inr (Or.inr (Or.inr (Or.inl rfl))), takeDigits_chars cs⟩,
          fun rest hr => by simp [pFrac, hd, takeDigits_append rest hr]⟩
    · rw [pFrac_other c cs h46] at h
      cases h
      exact ⟨rfl, nofun, fun rest hr => pFrac_other c _ h46⟩

theorem pExp_reads {s a t : Bytes} (h : pExp s = some (a, t)) : Reads pExp s a t := by
  match s with
  | [] => cases h; exact ⟨rfl, nofun, fun rest hr => hr.nothing.2.2.2⟩
  | e :: r =>
    rw [pExp_cons] at h
    by_cases he : (e = 101 || e = 69) = true
    · rw [if_pos he] at h
      split at h
      · cases h
      · rename_i hd
        cases h
        obtain ⟨e0, c0, a0⟩ := eSign_reads r
        refine ⟨?_, List.forall_mem_cons.2 ⟨?_, List.forall_mem_append.2 ⟨c0, takeDigits_chars _⟩⟩, fun rest hr => ?_⟩
        · simp [takeDigits_split, ← e0]
        · simp only [Bool.or_eq_true, decide_eq_true_eq] at he
          rcases he with rfl | rfl
          · exact Or.inr (Or.inr (Or.inr (Or.inr (Or.inl rfl))))
          · exact Or.inr (Or.inr (Or.inr (Or.inr (Or.inr rfl))))
        · simp [pExp_cons, he, hd, Option.some.inj (a0 rest hr), takeDigits_append rest hr]
    · rw [if_neg he] at h
      cases h
      exact ⟨rfl, nofun, fun rest hr => by rw [List.cons_append, pExp_cons, if_neg he]⟩

theorem parseNumber_reads {s l t : Bytes} (h : parseNumber s = some (l, t)) : Reads parseNumber s l t := by
  rw [parseNumber_afterSign] at h
  obtain ⟨ip, s2, fp, s3, ep, h1, h2, h3, rfl⟩ := afterSign_some h
  obtain ⟨e1, c1, a1⟩ := pInt_reads h1
  obtain ⟨e2, c2, a2⟩ := pFrac_reads h2
  obtain ⟨e3, c3, a3⟩ := pExp_reads h3
  obtain ⟨e0, c0, a0⟩ := pSign_reads s
  refine ⟨?_, ?_, fun rest hr => ?_⟩
  · rw [e1, e2, e3] at e0
    simpa using e0
  · simp only [List.forall_mem_append]
    exact ⟨⟨⟨c0, c1⟩, c2⟩, c3⟩
  · rw [parseNumber_afterSign, Option.some.inj (a0 rest hr)]
    simp only [afterSign, a1 rest hr, a2 rest hr, a3 rest hr]

theorem parseNumber_append (rest : Bytes) (hr : Stop rest) (s l t : Bytes) (h : parseNumber s = some (l, t)) :
    parseNumber (s ++ rest) = some (l, t ++ rest) :=
  (parseNumber_reads h).2.2 rest hr

theorem parseNumber_split (s l t : Bytes) (h : parseNumber s = some (l, t)) : s = l ++ t :=
  (parseNumber_reads h).1

theorem parseNumber_chars (s l t : Bytes) (h : parseNumber s = some (l, t)) : ∀ c ∈ l, NumCh c :=
  (parseNumber_reads h).2.1

theorem parseNumber_head (s l t : Bytes) (h : parseNumber s = some (l, t)) :
    ∃ c cs, s = c :: cs ∧ (c = 45 ∨ isDigit c = true) := by
  match s with
  | [] => cases h
  | c :: cs =>
    refine ⟨c, cs, rfl, ?_⟩
    by_cases h45 : c = 45
    · exact Or.inl h45
    · rw [parseNumber_afterSign, pSign_pos c cs h45] at h
      obtain ⟨_, _, _, _, _, h1, _⟩ := afterSign_some h
      exact Or.inr (pInt_digit h1)

theorem NumCh.plain {c : Nat} (h : NumCh c) : isWs c = false ∧ c ≠ 34 := by
  unfold NumCh at h
  simp only [isDigit, Bool.and_eq_true, decide_eq_true_eq] at h
  simp only [isWs, Bool.or_eq_false_iff, decide_eq_false_iff_not]
  omega

end Rfc8259
end Spec
end JV
