/-
  JV.Proofs.JsonParserCompleteStr — COMPLETENESS, strings: a string of the RFC 8259 reference (`parseString`: plain
  characters, the eight simple escapes, `\uXXXX` for a scalar value, a surrogate pair; valid UTF-8) is read by the string
  sub-automaton of the model to the same decoded bytes, as a value and as a member name.
-/
import JV.Proofs.JsonParserCompleteWs
import JV.Proofs.JsonParserString
namespace JV
namespace Model
namespace JsonParser
open Spec.Rfc8259 (parseChars parseString hex4 utf8Encode validUtf8)

theorem feed_unit (cfg : Cfg) {w d : Bytes} (hu : CharUnit w d) (s : St) (hst : s.st = .string) (hss : s.ss = .text)
    (he : s.err = none) :
    (feed cfg s w).st = .string ∧ (feed cfg s w).ss = .text ∧ (feed cfg s w).err = none ∧ (feed cfg s w).buf = s.buf ++ d ∧
      (feed cfg s w).stack = s.stack ∧ (feed cfg s w).level = s.level ∧ (feed cfg s w).evs = s.evs := by
  have hE : ∀ t, feed cfg s (92 :: t) = feed cfg { s with ss := .escape, noesc := false } t := fun t => by
    rw [feed_cons, feedChar_string cfg s 92 hst he, stepString_backslash s hss]
  cases hu with
  | plain c h34 h32 h92 =>
    rw [feed_cons, feedChar_string cfg s c hst he, stepString_plain s c hss h34 h32 h92]
    exact ⟨hst, hss, he, rfl, rfl, rfl, rfl⟩
  | simple e b h =>
    rw [hE, feed_cons, feedChar_string cfg { s with ss := .escape, noesc := false } e hst he, stepString_simple_esc _ e b rfl h]
    exact ⟨hst, rfl, he, rfl, rfl, rfl, rfl⟩
  | scalar a b c d u hx hhi hlo =>
    rw [hE, escape_u_scalar cfg { s with ss := .escape, noesc := false } a b c d u hst rfl he hx (by omega)]
    exact ⟨hst, rfl, he, rfl, rfl, rfl, rfl⟩
  | pair a b c d u a2 b2 c2 d2 lo hx hy hhi hlo =>
    rw [hE, escape_u_pair cfg { s with ss := .escape, noesc := false } a b c d a2 b2 c2 d2 u lo hst rfl he hx hy hhi hlo]
    exact ⟨hst, rfl, he, rfl, rfl, rfl, rfl⟩

theorem feed_chars (cfg : Cfg) : ∀ (fuel : Nat) (cs b rest : Bytes), parseChars fuel cs = some (b, rest) →
    ∀ s : St, s.st = .string → s.ss = .text → s.err = none →
    ∃ s', feed cfg s cs = feed cfg (endString s') rest ∧ s'.buf = s.buf ++ b ∧ s'.stack = s.stack ∧ s'.level = s.level ∧
      s'.evs = s.evs ∧ s'.err = none := by
  intro fuel cs b rest h
  have hc := parseChars_chars fuel cs b rest h
  clear h
  induction hc with
  | quote rest =>
    intro s hst hss he
    exact ⟨s, by rw [feed_cons, feedChar_string cfg s 34 hst he, stepString_quote s hss], by simp, rfl, rfl, rfl, he⟩
  | unit hu _ ih =>
    intro s hst hss he
    obtain ⟨h1, h2, h3, h4, h5, h6, h7⟩ := feed_unit cfg hu s hst hss he
    obtain ⟨s', e1, e2, e3, e4, e5, e6⟩ := ih _ h1 h2 h3
    exact ⟨s', by rw [feed_append, e1], by rw [e2, h4, List.append_assoc], e3.trans h5, e4.trans h6, e5.trans h7, e6⟩

theorem endString_ctx {stk n} (h : Ctx stk n) (s : St) (hs : s.stack = stk) (hv : validate s.buf = none) :
    endString s = { s with st := afterSt n, evs := Ev.str s.buf s.noesc :: s.evs } := by
  cases h <;> simp [endString, hv, parent, hs, afterSt, emit]

theorem feed_string_value (cfg : Cfg) {stk n} (hctx : Ctx stk n) (s0 : St) (s b rest : Bytes)
    (hp : parseString s = some (b, rest)) (hs : vState s0.st = true) (he : s0.err = none) (hstk : s0.stack = stk) :
    ∃ s1, feed cfg s0 s = feed cfg s1 rest ∧ s1.st = afterSt n ∧ s1.stack = s0.stack ∧
      s1.level = s0.level ∧ s1.err = none ∧ ∃ ne, s1.evs = Ev.str b ne :: s0.evs := by
  obtain ⟨cs, rfl, hpc, hv⟩ := parseString_inv s b rest hp
  have h1 : feedChar cfg s0 34 = startString s0 := feedChar_value cfg s0 _ 34 hs he (by simp [valueStart])
  obtain ⟨s', e1, e2, e3, e4, e5, e6⟩ := feed_chars cfg _ cs b rest hpc (startString s0) rfl rfl he
  have hbuf : s'.buf = b := by simpa [startString] using e2
  have hval : validate s'.buf = none := by rw [hbuf]; exact (validate_iff b).2 hv
  have hstk' : s'.stack = stk := by rw [e3]; exact hstk
  refine ⟨endString s', by rw [feed_cons, h1, e1], ?_⟩
  rw [endString_ctx hctx s' hstk' hval]
  exact ⟨rfl, e3, e4, e6, s'.noesc, by simp [hbuf, e5, startString]⟩

theorem feed_string_key (cfg : Cfg) (s0 : St) (s b rest : Bytes)
    (hp : parseString s = some (b, rest)) (hs : s0.st = .expectMemberNameOrEnd ∨ s0.st = .expectMemberName) (he : s0.err = none) :
    ∃ s1, feed cfg s0 s = feed cfg s1 rest ∧ s1.st = .expectColon ∧ s1.stack = s0.stack ∧
      s1.level = s0.level ∧ s1.err = none ∧ s1.evs = Ev.key b :: s0.evs := by
  obtain ⟨cs, rfl, hpc, hv⟩ := parseString_inv s b rest hp
  have h1 := feedChar_memberName cfg s0 hs he
  obtain ⟨s', e1, e2, e3, e4, e5, e6⟩ := feed_chars cfg _ cs b rest hpc (startString (push s0 .memberName)) rfl rfl he
  have hbuf : s'.buf = b := by simpa [startString] using e2
  have hval : validate s'.buf = none := by rw [hbuf]; exact (validate_iff b).2 hv
  have hstk' : s'.stack = .memberName :: s0.stack := by rw [e3]; rfl
  refine ⟨endString s', by rw [feed_cons, h1, e1], ?_⟩
  have : endString s' = { (emit s' (.key s'.buf)) with st := .expectColon, stack := s'.stack.tail } := by
    simp [endString, hval, parent, hstk']
  rw [this]
  exact ⟨rfl, by simp [hstk'], by simpa [emit, startString, push] using e4, by simpa [emit] using e6,
    by simp [emit, hbuf, e5, startString, push]⟩

end JsonParser
end Model
end JV
