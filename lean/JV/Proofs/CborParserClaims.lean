/-
  JV.Proofs.CborParserClaims — claimed lengths and counts against supplied bytes in the cbor_parser model (JV.Model.CborParser).
  A delivered value is paid for by consumed input and a delivered definite array / map has exactly the claimed number of elements /
  members (`weight_all`, JV.Proofs.CborParserFuel); hence a definite array (map) header claiming n elements (members) over fewer than
  n (2·n) remaining bytes is never accepted, and a definite string header claiming n bytes over fewer than n remaining bytes is
  `unexpected_eof`.
-/
import JV.Proofs.CborParserFuel
import JV.Proofs.CborRoundtrip
namespace JV.Model.CborParser
open JV

theorem length_le_weightList : ∀ xs : List Item, xs.length ≤ weightList xs
  | [] => by simp [weightList]
  | x :: xs => by have := length_le_weightList xs; have := x.weight_pos; simp [weightList]; omega

theorem length_le_weightMembers : ∀ ms : List (Item × Item), 2 * ms.length ≤ weightMembers ms
  | [] => by simp [weightMembers]
  | (k, v) :: ms => by
    have := length_le_weightMembers ms; have := k.weight_pos; have := v.weight_pos; simp [weightMembers]; omega

theorem readUint64_writeHead (major n : Nat) (hm : major < 8) (hn : n < 2 ^ 64) (rest : Bytes) :
    ∃ ib tail, Model.Cbor.writeHead major n ++ rest = ib :: tail ∧ ib / 32 = major ∧ ib % 32 < 28 ∧
      readUint64 (ib :: tail) = .ok n rest := by
  obtain ⟨ib, tail, he, hmaj, hai, hr⟩ := Model.Cbor.head_read major n hm hn rest
  refine ⟨ib, tail, he, hmaj, hai, ?_⟩
  have : ¬ 28 ≤ ib % 32 := by omega
  rw [readUint64_eq]; simp [hr, this]

theorem string_claim_eof (maxD major n : Nat) (hm : major = 2 ∨ major = 3) (hn : n < 2 ^ 64) (short : Bytes) (h : short.length < n)
    (fuel d : Nat) : item maxD (fuel + 1) d (Model.Cbor.writeHead major n ++ short) = .fail (.err .unexpectedEof) := by
  obtain ⟨ib, tail, he, hmaj, hai, hr⟩ := readUint64_writeHead major n (by omega) hn short
  have hs : readString major fuel ib tail = .fail (.err .unexpectedEof) := by
    rw [readString_eq, if_neg (by omega), readSize, hr]
    simp only [Res.bind]
    rw [if_pos h]
  rw [he]
  rcases hm with rfl | rfl
  · rw [item_bytes maxD fuel d ib tail hmaj, hs]; rfl
  · rw [item_text maxD fuel d ib tail hmaj, hs]; rfl

/-- an accepted definite array (major 4) or map (major 5) header: the claimed number of elements or members was read from what follows it -/
theorem container_claim_ok {maxD major n : Nat} (hm : major = 4 ∨ major = 5) (hn : n < 2 ^ 64) {short : Bytes} {fuel d : Nat}
    {v : Item} {r : Bytes} (hok : item maxD fuel d (Model.Cbor.writeHead major n ++ short) = .ok v r) :
    ∃ f, (major = 4 ∧ ∃ xs, items maxD f (d + 1) n short = .ok xs r) ∨ (major = 5 ∧ ∃ ms, members maxD f (d + 1) n short = .ok ms r) := by
  obtain ⟨ib, tail, he, hmaj, hai, hr⟩ := readUint64_writeHead major n (by omega) hn short
  rw [he] at hok
  cases fuel with
  | zero => cases hok
  | succ fuel =>
    refine ⟨fuel, ?_⟩
    rcases hm with rfl | rfl
    · rw [item_array maxD fuel d ib tail hmaj, if_neg (by omega : ¬ ib % 32 = 31), readSize, hr, Res.ite_fail_eq_ok] at hok
      obtain ⟨xs, hi, -⟩ := Res.map_eq_ok.1 hok.2
      exact Or.inl ⟨rfl, xs, hi⟩
    · rw [item_map maxD fuel d ib tail hmaj, if_neg (by omega : ¬ ib % 32 = 31), readSize, hr, Res.ite_fail_eq_ok] at hok
      obtain ⟨ms, hi, -⟩ := Res.map_eq_ok.1 hok.2
      exact Or.inr ⟨rfl, ms, hi⟩

theorem array_claim_refused (maxD n : Nat) (hn : n < 2 ^ 64) (short : Bytes) (h : short.length < n) (fuel d : Nat) (v : Item) (r : Bytes) :
    item maxD fuel d (Model.Cbor.writeHead 4 n ++ short) ≠ .ok v r := by
  intro hok
  obtain ⟨f, ⟨-, xs, hi⟩ | ⟨h5, -⟩⟩ := container_claim_ok (Or.inl rfl) hn hok
  · have := (weight_all maxD f).2.1 _ _ _ _ _ hi
    have := length_le_weightList xs
    omega
  · cases h5

theorem map_claim_refused (maxD n : Nat) (hn : n < 2 ^ 64) (short : Bytes) (h : short.length < 2 * n) (fuel d : Nat) (v : Item) (r : Bytes) :
    item maxD fuel d (Model.Cbor.writeHead 5 n ++ short) ≠ .ok v r := by
  intro hok
  obtain ⟨f, ⟨h4, -⟩ | ⟨-, ms, hi⟩⟩ := container_claim_ok (Or.inr rfl) hn hok
  · cases h4
  · have := (weight_all maxD f).2.2.2.1 _ _ _ _ _ hi
    have := length_le_weightMembers ms
    omega

end JV.Model.CborParser
