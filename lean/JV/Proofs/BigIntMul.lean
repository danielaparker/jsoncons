/-
  JV.Proofs.BigIntMul — DDproduct, multiplication by a word, the schoolbook product.
-/
import JV.Proofs.BigInt
namespace JV
namespace Model
namespace BigInt

theorem split_mul (a1 a0 b1 b0 h : Nat) :
    (a1 * h + a0) * (b1 * h + b0) = a1 * b1 * (h * h) + (a0 * b1 + a1 * b0) * h + a0 * b0 := by
  grind

/-- one `lo += mid << 32; hi += (lo < old) + (mid >> 32)` step of DDproduct -/
def lstep (lo mid : Nat) : Nat := (lo + mid * H % B) % B
def cstep (lo mid : Nat) : Nat := if lstep lo mid < lo then 1 else 0

theorem step_spec (lo mid : Nat) (hlo : lo < B) :
    lstep lo mid + B * (cstep lo mid + mid / H) = lo + mid * H ∧ lstep lo mid < B := by
  unfold cstep
  by_cases h : lstep lo mid < lo
  · simp only [h, if_true]; unfold lstep H B at *; omega
  · simp only [h, if_false]; unfold lstep H B at *; omega

/-- the sum of the four partial products, assembled by two `lstep`/`cstep` rounds, over variables: `lo1 lo2 k1 k2` are
    what `step_spec` says of the two rounds. The high word never wraps because the whole is below `B * B`. -/
theorem dd_arith {p00 p01 p10 p11 lo1 lo2 k1 k2 : Nat} (h00 : p00 ≤ (H - 1) * (H - 1)) (h01 : p01 ≤ (H - 1) * (H - 1))
    (h10 : p10 ≤ (H - 1) * (H - 1)) (h11 : p11 ≤ (H - 1) * (H - 1))
    (s1 : lo1 + B * k1 = p00 + p01 * H) (s2 : lo2 + B * k2 = lo1 + p10 * H) :
    lo2 + B * (((p11 + k1) % B + k2) % B) = p11 * (H * H) + (p01 + p10) * H + p00 ∧ ((p11 + k1) % B + k2) % B + 2 ≤ B := by
  unfold H B at *
  omega

theorem ddproduct_spec (a b : Nat) (ha : a < B) (hb : b < B) :
    (ddproduct a b).2 + B * (ddproduct a b).1 = a * b ∧ (ddproduct a b).2 < B ∧ (ddproduct a b).1 + 2 ≤ B := by
  have hab : a * b = (a / H) * (b / H) * (H * H) + ((a % H) * (b / H) + (a / H) * (b % H)) * H + (a % H) * (b % H) := by
    have := split_mul (a / H) (a % H) (b / H) (b % H) H
    rw [Nat.div_add_mod', Nat.div_add_mod'] at this
    exact this
  have lo : ∀ x, x % H ≤ H - 1 := fun x => by unfold H; omega
  have hi : ∀ x, x < B → x / H ≤ H - 1 := fun x hx => by unfold H B at *; omega
  have h00 : (a % H) * (b % H) ≤ (H - 1) * (H - 1) := Nat.mul_le_mul (lo a) (lo b)
  have h01 : (a % H) * (b / H) ≤ (H - 1) * (H - 1) := Nat.mul_le_mul (lo a) (hi b hb)
  have h10 : (a / H) * (b % H) ≤ (H - 1) * (H - 1) := Nat.mul_le_mul (hi a ha) (lo b)
  have h11 : (a / H) * (b / H) ≤ (H - 1) * (H - 1) := Nat.mul_le_mul (hi a ha) (hi b hb)
  have small : ∀ p, p ≤ (H - 1) * (H - 1) → p % B = p := fun p hp => Nat.mod_eq_of_lt (by unfold H B at *; omega)
  simp only [ddproduct]
  rw [hab, small _ h00, small _ h01, small _ h10, small _ h11]
  obtain ⟨s1, l1⟩ := step_spec ((a % H) * (b % H)) ((a % H) * (b / H)) (by have := small _ h00; unfold H B at *; omega)
  obtain ⟨s2, l2⟩ := step_spec (lstep ((a % H) * (b % H)) ((a % H) * (b / H))) ((a / H) * (b % H)) l1
  have := dd_arith h00 h01 h10 h11 s1 s2
  exact ⟨this.1, l2, this.2⟩

theorem mulWordLoop_spec (y : Nat) (hy : y < B) : ∀ (xs : List Nat) (c : Nat), Words xs → c < B →
    val (mulWordLoop y xs c) = val xs * y + c ∧ Words (mulWordLoop y xs c) ∧ (mulWordLoop y xs c).length = xs.length + 1
  | [], c, _, hc => by
    refine ⟨by simp [mulWordLoop, val], ?_, rfl⟩
    intro z hz; simp [mulWordLoop] at hz; omega
  | dig :: xs, c, hw, hc => by
    obtain ⟨hp, hlo, hhi⟩ := ddproduct_spec dig y hw.head hy
    simp only [mulWordLoop]
    generalize ddproduct dig y = p at *
    obtain ⟨hd, he1, he2⟩ := add_carry hlo hc
    generalize (if (p.2 + c) % B < p.2 then 1 else 0) = e at *
    have hcarry : (p.1 + e) % B = p.1 + e := Nat.mod_eq_of_lt (by omega)
    rw [hcarry]
    obtain ⟨ih1, ih2, ih3⟩ := mulWordLoop_spec y hy xs (p.1 + e) hw.tail (by omega)
    refine ⟨?_, ?_, by simp [ih3]⟩
    · simp only [val, ih1, Nat.add_mul, Nat.mul_add, Nat.mul_assoc]
      rw [← hp]
      generalize val xs * y = V at *
      omega
    · exact ih2.cons hd

theorem mulWord_val (x : List Nat) (y : Nat) (hx : Words x) (hy : y < B) : val (mulWord x y) = val x * y := by
  unfold mulWord
  rw [stripHigh_val, (mulWordLoop_spec y hy x 0 hx B_pos).1, Nat.add_zero]

theorem mulWord_words (x : List Nat) (y : Nat) (hx : Words x) (hy : y < B) : Words (mulWord x y) :=
  stripHigh_words (mulWordLoop_spec y hy x 0 hx B_pos).2.1

/-- `Σ_{i<n} f i * B^i` -/
def sumH : (Nat → Nat) → Nat → Nat
  | _, 0 => 0
  | f, n + 1 => f 0 + B * sumH (fun i => f (i + 1)) n

theorem sumH_zero (n : Nat) : sumH (fun _ => 0) n = 0 := by
  induction n with
  | zero => rfl
  | succ n ih => simp [sumH, ih]

theorem sumH_congr {f g : Nat → Nat} (h : ∀ i, f i = g i) (n : Nat) : sumH f n = sumH g n := by
  have : f = g := funext h
  rw [this]

theorem sumH_add (f g : Nat → Nat) (n : Nat) : sumH (fun i => f i + g i) n = sumH f n + sumH g n := by
  induction n generalizing f g with
  | zero => rfl
  | succ n ih =>
    simp only [sumH]
    rw [ih (fun i => f (i + 1)) (fun i => g (i + 1)), Nat.mul_add]
    omega

theorem sumH_mul (c : Nat) (f : Nat → Nat) (n : Nat) : sumH (fun i => c * f i) n = c * sumH f n := by
  induction n generalizing f with
  | zero => simp [sumH]
  | succ n ih =>
    simp only [sumH]
    rw [ih (fun i => f (i + 1)), Nat.mul_add, Nat.mul_left_comm]

theorem sumH_shift (g : Nat → Nat) : ∀ (j n : Nat), j ≤ n →
    sumH (fun i => if j ≤ i then g (i - j) else 0) n = B ^ j * sumH g (n - j)
  | 0, n, _ => by simp
  | j + 1, 0, h => by omega
  | j + 1, n + 1, h => by
    simp only [sumH]
    have e : (fun i => if j + 1 ≤ i + 1 then g (i + 1 - (j + 1)) else 0) = (fun i => if j ≤ i then g (i - j) else 0) := by
      funext i
      simp [Nat.add_sub_add_right]
    rw [e, sumH_shift g j n (by omega)]
    simp [Nat.pow_succ, Nat.mul_assoc, Nat.mul_comm]

theorem sumH_getD : ∀ (y : List Nat) (n : Nat), y.length ≤ n → sumH (fun i => y.getD i 0) n = val y
  | [], n, _ => by simpa [val] using sumH_zero n
  | a :: ys, 0, h => by simp at h
  | a :: ys, n + 1, h => by
    simp only [sumH, val, List.getD_cons_zero, List.getD_cons_succ]
    rw [sumH_getD ys n (by simpa using h)]

/-- the products that fall into column `i`, for the words `xs` of `x` starting at index `jA` -/
def colSum (y : List Nat) : List Nat → Nat → Nat → Nat
  | [], _, _ => 0
  | xa :: xs, jA, i => (if jA ≤ i then xa * y.getD (i - jA) 0 else 0) + colSum y xs (jA + 1) i

theorem sumH_colSum (y : List Nat) : ∀ (xs : List Nat) (jA n : Nat), jA + xs.length + y.length ≤ n →
    sumH (colSum y xs jA) n = B ^ jA * (val xs * val y)
  | [], jA, n, _ => by
    have : colSum y [] jA = fun _ => 0 := by funext i; rfl
    rw [this, sumH_zero]; simp [val]
  | xa :: xs, jA, n, h => by
    have e : colSum y (xa :: xs) jA = fun i => (if jA ≤ i then xa * y.getD (i - jA) 0 else 0) + colSum y xs (jA + 1) i := by
      funext i; rfl
    simp only [List.length_cons] at h
    rw [e, sumH_add, sumH_colSum y xs (jA + 1) n (by omega)]
    rw [sumH_shift (fun k => xa * y.getD k 0) jA n (by omega), sumH_mul, sumH_getD y (n - jA) (by omega)]
    simp only [val, Nat.pow_succ, Nat.add_mul, Nat.mul_add, Nat.mul_assoc]


theorem words_getD {y : List Nat} (hy : Words y) (k : Nat) : y.getD k 0 < B := by
  by_cases h : k < y.length
  · simp only [List.getD_eq_getElem?_getD, List.getElem?_eq_getElem h, Option.getD_some]; exact hy _ (List.getElem_mem h)
  · simp only [List.getD_eq_getElem?_getD, List.getElem?_eq_none (Nat.le_of_not_lt h), Option.getD_none]; exact B_pos

theorem acc_arith {lo hi c plo phi lo' hi' k1 k2 : Nat} (s1 : lo' + B * k1 = lo + plo) (s2 : hi' + B * k2 = hi + (k1 + phi)) :
    lo' + B * hi' + B * B * (c + k2) = lo + B * hi + B * B * c + plo + B * phi := by
  unfold B at *
  omega

/-- one accumulation `sumLo += lo; if (sumLo < old) sumHi++; sumHi += hi; carry += (sumHi < old)`:
    `hi ≤ B - 2` is what makes the single overflow test on `sumHi` sufficient -/
theorem acc_step (lo hi c plo phi : Nat) (hlo : lo < B) (hhi : hi < B) (hplo : plo < B) (hphi : phi + 2 ≤ B) (hc : c + 1 < B) :
    ∃ lo' hi' c', lo' = (lo + plo) % B ∧
      hi' = ((if (lo + plo) % B < lo then (hi + 1) % B else hi) + phi) % B ∧
      c' = (c + (if ((if (lo + plo) % B < lo then (hi + 1) % B else hi) + phi) % B < hi then 1 else 0)) % B ∧
      lo' + B * hi' + B * B * c' = lo + B * hi + B * B * c + plo + B * phi ∧ lo' < B ∧ hi' < B ∧ c' ≤ c + 1 := by
  refine ⟨_, _, _, rfl, rfl, rfl, ?_⟩
  obtain ⟨hlo', hk1, s1⟩ := add_carry hlo hplo
  -- the increment and `phi` enter the high word as one addend below `B`
  have e : ((if (lo + plo) % B < lo then (hi + 1) % B else hi) + phi) % B
      = (hi + ((if (lo + plo) % B < lo then 1 else 0) + phi)) % B := by
    split
    · rw [Nat.mod_add_mod, Nat.add_assoc]
    · rw [Nat.zero_add]
  rw [e]
  generalize (if (lo + plo) % B < lo then 1 else 0) = k1 at *
  obtain ⟨hhi', hk2, s2⟩ := add_carry hhi (by omega : k1 + phi < B)
  generalize (if (hi + (k1 + phi)) % B < hi then 1 else 0) = k2 at *
  rw [Nat.mod_eq_of_lt (by omega : c + k2 < B)]
  exact ⟨acc_arith s1 s2, hlo', hhi', by omega⟩

theorem colLoop_spec (y : List Nat) (hy : Words y) (i : Nat) : ∀ (xs : List Nat) (jA lo hi c : Nat),
    Words xs → lo < B → hi < B → c + xs.length < B →
    (colLoop y i xs jA (lo, hi, c)).1 + B * (colLoop y i xs jA (lo, hi, c)).2.1 + B * B * (colLoop y i xs jA (lo, hi, c)).2.2
        = lo + B * hi + B * B * c + colSum y xs jA i ∧
      (colLoop y i xs jA (lo, hi, c)).1 < B ∧ (colLoop y i xs jA (lo, hi, c)).2.1 < B ∧
      (colLoop y i xs jA (lo, hi, c)).2.2 ≤ c + xs.length
  | [], jA, lo, hi, c, _, hlo, hhi, _ => by simp [colLoop, colSum, hlo, hhi]
  | xa :: xs, jA, lo, hi, c, hw, hlo, hhi, hc => by
    simp only [List.length_cons] at hc
    by_cases hcond : i ≥ jA ∧ i - jA < y.length
    · obtain ⟨hp, hplo, hphi⟩ := ddproduct_spec xa (y.getD (i - jA) 0) hw.head (words_getD hy _)
      obtain ⟨lo', hi', c', e1, e2, e3, hsum, hlo', hhi', hc'⟩ :=
        acc_step lo hi c (ddproduct xa (y.getD (i - jA) 0)).2 (ddproduct xa (y.getD (i - jA) 0)).1 hlo hhi hplo hphi (by omega)
      have hstep : colLoop y i (xa :: xs) jA (lo, hi, c) = colLoop y i xs (jA + 1) (lo', hi', c') := by
        simp only [colLoop, hcond, and_self, if_true, e1, e2, e3]
      rw [hstep]
      obtain ⟨ih1, ih2, ih3, ih4⟩ := colLoop_spec y hy i xs (jA + 1) lo' hi' c' hw.tail hlo' hhi' (by omega)
      refine ⟨?_, ih2, ih3, by simp only [List.length_cons]; omega⟩
      rw [ih1, hsum]
      simp only [colSum, hcond.1, if_true, ← hp]
      generalize ddproduct xa (y.getD (i - jA) 0) = p at *
      omega
    · have hstep : colLoop y i (xa :: xs) jA (lo, hi, c) = colLoop y i xs (jA + 1) (lo, hi, c) := by
        simp only [colLoop, hcond, if_false]
      rw [hstep]
      obtain ⟨ih1, ih2, ih3, ih4⟩ := colLoop_spec y hy i xs (jA + 1) lo hi c hw.tail hlo hhi (by omega)
      refine ⟨?_, ih2, ih3, by simp only [List.length_cons]; omega⟩
      rw [ih1]
      have hz : (if jA ≤ i then xa * y.getD (i - jA) 0 else 0) = 0 := by
        by_cases hj : jA ≤ i
        · have : y.length ≤ i - jA := by
            have := hcond; simp only [ge_iff_le, hj, true_and] at this; omega
          simp [hj, List.getElem?_eq_none this]
        · simp [hj]
      simp only [colSum, hz]
      omega

theorem rowLoop_spec (x y : List Nat) (hx : Words x) (hy : Words y) (hlen : x.length < B) : ∀ (n i sumHi carry : Nat),
    sumHi < B → carry ≤ x.length →
    ∃ F, val (rowLoop x y n i sumHi carry) + B ^ n * F = sumHi + B * carry + sumH (fun k => colSum y x 0 (i + k)) n ∧
      Words (rowLoop x y n i sumHi carry) ∧ (rowLoop x y n i sumHi carry).length = n
  | 0, i, sumHi, carry, _, _ => ⟨sumHi + B * carry, by simp [rowLoop, val, sumH], by intro z hz; simp [rowLoop] at hz, rfl⟩
  | n + 1, i, sumHi, carry, h1, h2 => by
    obtain ⟨c1, c2, c3, c4⟩ := colLoop_spec y hy i x 0 sumHi carry 0 hx h1 (by omega) (by omega)
    simp only [rowLoop]
    generalize colLoop y i x 0 (sumHi, carry, 0) = acc at *
    obtain ⟨F, f1, f2, f3⟩ := rowLoop_spec x y hx hy hlen n (i + 1) acc.2.1 acc.2.2 c3 (by omega)
    refine ⟨F, ?_, ?_, by simp [f3]⟩
    · simp only [val, sumH, Nat.pow_succ, Nat.add_zero]
      have e : (fun k => colSum y x 0 (i + (k + 1))) = (fun k => colSum y x 0 (i + 1 + k)) := by
        funext k; congr 1; omega
      rw [e, Nat.mul_comm (B ^ n) B]
      have h := congrArg (B * ·) f1
      simp only [Nat.mul_add, ← Nat.mul_assoc] at h
      omega
    · exact f2.cons c2

theorem schoolbook_val (x y : List Nat) (hx : Words x) (hy : Words y) (hlen : x.length < B) :
    val (schoolbook x y) = val x * val y := by
  obtain ⟨F, f1, f2, f3⟩ := rowLoop_spec x y hx hy hlen (x.length + y.length) 0 0 0 B_pos (by omega)
  have e : (fun k => colSum y x 0 (0 + k)) = colSum y x 0 := by funext k; simp
  rw [e, sumH_colSum y x 0 _ (by omega)] at f1
  simp only [Nat.pow_zero, Nat.one_mul, Nat.mul_zero, Nat.add_zero, Nat.zero_add] at f1
  have hlt : val x * val y < B ^ (x.length + y.length) := by
    rw [Nat.pow_add]
    exact Nat.mul_lt_mul'' (val_lt hx) (val_lt hy)
  have hF : F = 0 := by
    rcases Nat.eq_zero_or_pos F with h | h
    · exact h
    · have : B ^ (x.length + y.length) ≤ B ^ (x.length + y.length) * F := Nat.le_mul_of_pos_right _ h
      omega
  subst hF
  unfold schoolbook
  omega

theorem mul11_val (a b : Nat) (ha : a < B) (hb : b < B) :
    val (if a * b % B / a ≠ b then [(ddproduct a b).2, (ddproduct a b).1] else [a * b % B]) = a * b := by
  obtain ⟨hp, _, _⟩ := ddproduct_spec a b ha hb
  by_cases hq : a * b % B / a ≠ b
  · rw [if_pos hq, val_two]
    exact hp
  · rw [if_neg hq, val_one]
    have hq' : a * b % B / a = b := Classical.not_not.1 hq
    have h1 : a * b % B ≤ a * b := Nat.mod_le _ _
    have h2 : a * b % B / a * a ≤ a * b % B := Nat.div_mul_le_self _ _
    rw [hq', Nat.mul_comm b a] at h2
    omega
theorem mulMag_val (x y : List Nat) (hx : Words x) (hy : Words y) (hlen : x.length < B) :
    val (mulMag x y) = val x * val y := by
  unfold mulMag
  split
  · simp [val]
  · simp [val]
  · rename_i a b
    have := mul11_val a b hx.head hy.head
    rw [val_one, val_one]
    exact this
  · rename_i a _ _
    rw [stripHigh_val, mulWord_val y a hy hx.head]
    rw [val_one, Nat.mul_comm]
  · rename_i b _ _
    rw [stripHigh_val, mulWord_val x b hx hy.head]
    rw [val_one]
  · rw [stripHigh_val, schoolbook_val x y hx hy hlen]

end BigInt
end Model
end JV
