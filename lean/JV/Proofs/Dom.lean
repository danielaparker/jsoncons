/-
  JV.Proofs.Dom — the object primitives (`replaceVal`, `try_emplace`, `insert_or_assign`, `erase`, merge) are
  finite-map operations and keep the representation invariant, in either flavour bring in no value but the new
  one, and are undone by `erase`; the array primitives (`set`, `insertAt`, `eraseIdx`) likewise; the Specs'
  `Target[Name] = Value` is `insert_or_assign` on a sorted object.
-/
import JV.Proofs.Assoc
import JV.Model.Dom
import JV.Spec.Rfc6901
import JV.Spec.Rfc7386
namespace JV
namespace Model
open Assoc

theorem find_replaceVal_self {k : Bytes} {v : JVal} : ∀ {ms : List (Bytes × JVal)} {x : JVal}, find k ms = some x →
    find k (replaceVal k v ms) = some v
  | [], _, h => by simp [find] at h
  | (k', v') :: ms, x, h => by
    rcases find_cons_eq_some.1 h with ⟨e, _⟩ | ⟨e, h⟩
    · simp [replaceVal, e, find]
    · simp [replaceVal, e, find, find_replaceVal_self h]

theorem find_replaceVal_ne {k k' : Bytes} {v : JVal} (hne : k' ≠ k) : ∀ {ms : List (Bytes × JVal)},
    find k' (replaceVal k v ms) = find k' ms
  | [] => rfl
  | (k'', v') :: ms => by
    by_cases e : k'' = k
    · have : k'' ≠ k' := fun e' => hne (e'.symm.trans e)
      simp [replaceVal, e, find, e ▸ this]
    · simp only [replaceVal, e, if_false, find, find_replaceVal_ne hne (ms := ms)]

theorem keys_replaceVal (k : Bytes) (v : JVal) : ∀ (ms : List (Bytes × JVal)), keys (replaceVal k v ms) = keys ms
  | [] => rfl
  | (k', v') :: ms => by
    by_cases e : k' = k
    · simp [replaceVal, e, keys]
    · simp [replaceVal, e, keys]
      exact keys_replaceVal k v ms

theorem sorted_replaceVal {k : Bytes} {v : JVal} {ms : List (Bytes × JVal)} (hs : Sorted ms) : Sorted (replaceVal k v ms) := by
  rw [sorted_iff_keys, keys_replaceVal]
  exact sorted_iff_keys.1 hs

theorem replaceVal_same {k : Bytes} {x : JVal} : ∀ {ms : List (Bytes × JVal)}, find k ms = some x → replaceVal k x ms = ms
  | [], h => by simp [find] at h
  | (k', v) :: ms, h => by
    rcases find_cons_eq_some.1 h with ⟨e, rfl⟩ | ⟨e, h⟩
    · simp [replaceVal, e]
    · simp [replaceVal, e, replaceVal_same h]

theorem replaceVal_replaceVal (k : Bytes) (a b : JVal) : ∀ ms : List (Bytes × JVal),
    replaceVal k a (replaceVal k b ms) = replaceVal k a ms
  | [] => rfl
  | (k', v') :: ms => by
    by_cases e : k' = k
    · simp [replaceVal, e]
    · simp [replaceVal, e, replaceVal_replaceVal k a b ms]

theorem nodup_replaceVal {k : Bytes} {x : JVal} {ms : List (Bytes × JVal)} (hn : (keys ms).Nodup) :
    (keys (replaceVal k x ms)).Nodup := by rw [keys_replaceVal]; exact hn

theorem mem_replaceVal {k : Bytes} {v : JVal} {p : Bytes × JVal} : ∀ {ms : List (Bytes × JVal)}, p ∈ replaceVal k v ms → p ∈ ms ∨ p.2 = v
  | [], h => by simp [replaceVal] at h
  | (k', v') :: ms, h => by
    simp only [replaceVal] at h
    split at h
    · rcases List.mem_cons.1 h with rfl | h
      · exact .inr rfl
      · exact .inl (List.mem_cons_of_mem _ h)
    · rcases List.mem_cons.1 h with rfl | h
      · exact .inl List.mem_cons_self
      · exact (mem_replaceVal h).imp_left (List.mem_cons_of_mem _)

theorem insertOrAssign_map (k : Bytes) (v : JVal) (ms : List (Bytes × JVal)) (hs : Sorted ms) :
    Sorted (insertOrAssign false k v ms) ∧ find k (insertOrAssign false k v ms) = some v ∧
      ∀ k', k' ≠ k → find k' (insertOrAssign false k v ms) = find k' ms := by
  unfold insertOrAssign
  cases h : find k ms with
  | some x =>
    exact ⟨sorted_replaceVal hs, find_replaceVal_self h, fun k' hne => find_replaceVal_ne hne⟩
  | none =>
    simp only [Bool.false_eq_true, if_false]
    exact ⟨sorted_insertSorted hs h, find_insertSorted_self, fun k' hne => find_insertSorted_ne hne⟩

theorem sorted_tryEmplace {k : Bytes} {v : JVal} {ms : List (Bytes × JVal)} (hs : Sorted ms) :
    Sorted (tryEmplace false k v ms) := by
  unfold tryEmplace
  cases hk : find k ms with
  | some y => exact hs
  | none => exact sorted_insertSorted hs hk

theorem find_tryEmplace (k' k : Bytes) (v : JVal) (ms : List (Bytes × JVal)) :
    find k' (tryEmplace false k v ms) =
      match find k' ms with
      | some x => some x
      | none => if k' = k then some v else none := by
  unfold tryEmplace
  cases hk : find k ms with
  | some y =>
    cases hk' : find k' ms with
    | some x => simp
    | none =>
      by_cases e : k' = k
      · subst e; rw [hk] at hk'; cases hk'
      · simp [e]
  | none =>
    simp only [Bool.false_eq_true, if_false]
    by_cases e : k' = k
    · subst e; rw [hk]; simp [find_insertSorted_self]
    · rw [find_insertSorted_ne e]
      cases find k' ms <;> simp [e]

theorem tryEmplace_map (k : Bytes) (v : JVal) (ms : List (Bytes × JVal)) (hs : Sorted ms) :
    Sorted (tryEmplace false k v ms) ∧
      find k (tryEmplace false k v ms) = some ((find k ms).getD v) ∧
      ∀ k', k' ≠ k → find k' (tryEmplace false k v ms) = find k' ms := by
  refine ⟨sorted_tryEmplace hs, ?_, fun k' hne => ?_⟩
  · rw [find_tryEmplace]; cases find k ms <;> simp
  · rw [find_tryEmplace]; cases find k' ms <;> simp [hne]

theorem find_insertOrAssign_self (ordered : Bool) (k : Bytes) (v : JVal) (ms : List (Bytes × JVal)) :
    find k (insertOrAssign ordered k v ms) = some v := by
  unfold insertOrAssign
  cases h : find k ms with
  | some x => exact find_replaceVal_self h
  | none =>
    cases ordered
    · simpa using find_insertSorted_self
    · simp [find_append_one, h]

theorem tryEmplace_absent (o : Bool) {k : Bytes} (v : JVal) {ms : List (Bytes × JVal)} (h : find k ms = none) :
    tryEmplace o k v ms = insertOrAssign o k v ms := by
  simp only [tryEmplace, insertOrAssign, h]

theorem find_tryEmplace_self (ordered : Bool) {k : Bytes} {v : JVal} {ms : List (Bytes × JVal)} (h : find k ms = none) :
    find k (tryEmplace ordered k v ms) = some v :=
  tryEmplace_absent ordered v h ▸ find_insertOrAssign_self ordered k v ms

theorem erase_tryEmplace_absent (o : Bool) {k : Bytes} {v : JVal} {ms : List (Bytes × JVal)} (h : find k ms = none) :
    erase k (tryEmplace o k v ms) = ms := by
  unfold tryEmplace
  rw [h]
  cases o
  · simpa using erase_insertSorted_absent h
  · simpa using erase_append_absent h

section
variable {k : Bytes} {v : JVal} {p : Bytes × JVal}

theorem mem_insertOrAssign (o : Bool) {ms : List (Bytes × JVal)} (h : p ∈ insertOrAssign o k v ms) :
    p ∈ ms ∨ p.2 = v := by
  unfold insertOrAssign at h
  split at h
  · exact mem_replaceVal h
  · have : p ∈ ms ∨ p = (k, v) := by
      cases o
      · simpa [mem_insertSorted, or_comm] using h
      · simpa using h
    exact this.imp_right (congrArg Prod.snd)

theorem mem_tryEmplace (o : Bool) {ms : List (Bytes × JVal)} (h : p ∈ tryEmplace o k v ms) : p ∈ ms ∨ p.2 = v := by
  cases hf : find k ms with
  | some _ => exact .inl (by simpa only [tryEmplace, hf] using h)
  | none => exact mem_insertOrAssign o (tryEmplace_absent o v hf ▸ h)

end

theorem erase_map (k : Bytes) (ms : List (Bytes × JVal)) (hs : Sorted ms) :
    Sorted (erase k ms) ∧ find k (erase k ms) = none ∧ ∀ k', k' ≠ k → find k' (erase k ms) = find k' ms :=
  ⟨sorted_erase hs, find_erase_self hs, fun _ hne => find_erase_ne hne⟩

theorem mergeInto_sorted : ∀ (src ms : List (Bytes × JVal)), Sorted ms → Sorted (Dom.mergeInto false ms src)
  | [], _, hs => hs
  | _ :: src, _, hs => mergeInto_sorted src _ (sorted_tryEmplace hs)

theorem mergeInto_keeps_existing (k : Bytes) (x : JVal) : ∀ (src ms : List (Bytes × JVal)), Sorted ms → find k ms = some x →
    find k (Dom.mergeInto false ms src) = some x
  | [], _, _, h => h
  | (k0, v0) :: src, ms, hs, h =>
    mergeInto_keeps_existing k x src _ (sorted_tryEmplace hs) (by rw [find_tryEmplace, h])

theorem set_same {x : JVal} {xs : List JVal} {i : Nat} (h : xs[i]? = some x) : xs.set i x = xs := by
  obtain ⟨hi, rfl⟩ := List.getElem?_eq_some_iff.1 h
  exact List.set_getElem_self hi

theorem insertAt_eq_insertIdx (v : JVal) : ∀ (xs : List JVal) (i : Nat), i ≤ xs.length → insertAt i v xs = xs.insertIdx i v
  | xs, 0, _ => by simp [insertAt]
  | [], i + 1, h => by simp at h
  | x :: xs, i + 1, h => by
    have := insertAt_eq_insertIdx v xs i (by simpa using h)
    simp only [insertAt] at this ⊢
    simp [this]

theorem getElem_insertAt {v : JVal} {xs : List JVal} {i : Nat} (h : i ≤ xs.length) : (insertAt i v xs)[i]? = some v := by
  rw [insertAt_eq_insertIdx v xs i h, List.getElem?_insertIdx_self, if_pos h]

theorem eraseIdx_insertAt (v : JVal) (xs : List JVal) (i : Nat) (h : i ≤ xs.length) : (insertAt i v xs).eraseIdx i = xs := by
  rw [insertAt_eq_insertIdx v xs i h, List.eraseIdx_insertIdx_self]

theorem insertAt_eraseIdx {v : JVal} : ∀ {xs : List JVal} {i : Nat}, xs[i]? = some v → insertAt i v (xs.eraseIdx i) = xs
  | [], _, h => by simp at h
  | x :: xs, 0, h => by simp at h; simp [insertAt, h]
  | x :: xs, i + 1, h => by
    have := insertAt_eraseIdx (xs := xs) (i := i) (by simpa using h)
    simp only [insertAt] at this ⊢
    simp [this]

theorem insertAt_length (v : JVal) (xs : List JVal) : insertAt xs.length v xs = xs ++ [v] := by
  simp [insertAt]

section
variable {Q : JVal → Prop} {xs : List JVal} {v : JVal}

theorem forall_mem_set (h : ∀ y ∈ xs, Q y) (hv : Q v) (i : Nat) : ∀ y ∈ xs.set i v, Q y :=
  fun y hy => (List.mem_or_eq_of_mem_set hy).elim (h y) (fun e => e ▸ hv)

theorem forall_mem_insertAt (h : ∀ y ∈ xs, Q y) (hv : Q v) (i : Nat) : ∀ y ∈ insertAt i v xs, Q y := by
  intro y hy
  rcases List.mem_append.1 hy with hy | hy
  · exact h y (List.mem_of_mem_take hy)
  · rcases List.mem_cons.1 hy with rfl | hy
    · exact hv
    · exact h y (List.mem_of_mem_drop hy)

theorem forall_mem_eraseIdx (h : ∀ y ∈ xs, Q y) (i : Nat) : ∀ y ∈ xs.eraseIdx i, Q y :=
  fun y hy => h y (List.mem_of_mem_eraseIdx hy)

end

theorem map_eraseIdx (f : JVal → JVal) : ∀ (xs : List JVal) (i : Nat), (xs.eraseIdx i).map f = (xs.map f).eraseIdx i
  | [], _ => by simp
  | x :: xs, 0 => by simp
  | x :: xs, i + 1 => by simp [map_eraseIdx f xs i]

open Spec.Rfc7386

theorem assign_eq_insert (k : Bytes) (v : JVal) : ∀ {ms : List (Bytes × JVal)}, Sorted ms →
    assign k v ms = insertSorted k v (erase k ms)
  | [], _ => rfl
  | (k', v') :: ms, hs => by
    simp only [assign, erase]
    by_cases e : k' = k
    · subst e
      simp only [if_true, insertSorted_of_allGt hs.allGt]
    · simp only [e, if_false, insertSorted]
      split
      · rw [assign_eq_insert k v hs.tail]
      · -- `k` sorts before `k'`, hence before every later key: there is nothing to erase
        next hl =>
        have hlt : keyLt k k' = true := (keyLt_trichotomy k k').resolve_right (not_or.2 ⟨Ne.symm e, hl⟩)
        rw [erase_of_find_none (find_none_of_allGt (Or.inl hlt) hs.allGt)]

theorem emplace_erase_eq_assign {k : Bytes} {v : JVal} {ms : List (Bytes × JVal)} (hs : Sorted ms) :
    tryEmplace false k v (erase k ms) = assign k v ms := by
  rw [assign_eq_insert k v hs]; simp [tryEmplace, find_erase_self hs]

theorem sorted_assign {k : Bytes} {v : JVal} {ms : List (Bytes × JVal)} (hs : Sorted ms) : Sorted (assign k v ms) := by
  rw [assign_eq_insert k v hs]
  exact sorted_insertSorted (sorted_erase hs) (find_erase_self hs)

theorem find_assign_self {k : Bytes} {v : JVal} {ms : List (Bytes × JVal)} (hs : Sorted ms) :
    find k (assign k v ms) = some v := by
  rw [assign_eq_insert k v hs]; exact find_insertSorted_self

theorem find_assign_ne {k k' : Bytes} {v : JVal} {ms : List (Bytes × JVal)} (hs : Sorted ms) (hne : k' ≠ k) :
    find k' (assign k v ms) = find k' ms := by
  rw [assign_eq_insert k v hs, find_insertSorted_ne hne, find_erase_ne hne]

theorem assign_eq_rfc7386 (k : Bytes) (v : JVal) :
    ∀ ms : List (Bytes × JVal), Spec.Rfc6901.assign k v ms = Spec.Rfc7386.assign k v ms
  | [] => rfl
  | (k', v') :: ms => by simp only [Spec.Rfc6901.assign, Spec.Rfc7386.assign, assign_eq_rfc7386 k v ms]

theorem assign_eq_insertOrAssign {k : Bytes} {v : JVal} {ms : List (Bytes × JVal)} (hs : Sorted ms) :
    Spec.Rfc6901.assign k v ms = insertOrAssign false k v ms := by
  rw [assign_eq_rfc7386, assign_eq_insert k v hs]
  unfold insertOrAssign
  cases hf : find k ms with
  | none => simp [erase_of_find_none hf]
  | some x =>
    -- the member is overwritten where it stands: same lookups, both sorted
    refine sorted_ext (sorted_insertSorted (sorted_erase hs) (find_erase_self hs)) (sorted_replaceVal hs) fun k' => ?_
    by_cases e : k' = k
    · subst e; rw [find_insertSorted_self, find_replaceVal_self hf]
    · rw [find_insertSorted_ne e, find_erase_ne e, find_replaceVal_ne e]

theorem assign_eq_replaceVal {k : Bytes} {v x : JVal} {ms : List (Bytes × JVal)} (hs : Sorted ms)
    (hf : find k ms = some x) : Spec.Rfc6901.assign k v ms = replaceVal k v ms := by
  rw [assign_eq_insertOrAssign hs]; unfold insertOrAssign; rw [hf]

end Model
end JV
