/-
  JV.Proofs.Bytes — the fixed-width fields all four binary formats are made of: a big-endian (`beBytes` / `beVal`) or little-endian
  (`leBytes` / `leVal`) field of `w` bytes holds a number modulo 256^w, `takeN` splits a field off the front, `toSigned` undoes
  two's complement. The parsers read a big-endian field by a left fold (`bigToNative`): the same number.
-/
import JV.Model.Cbor
import JV.Model.Bson
import JV.Model.CborParser
import JV.Spec.BinFormats
namespace JV
open Spec Spec.Cbor

namespace Model.Cbor

theorem length_beBytes : ∀ (w n : Nat), (beBytes w n).length = w
  | 0, _ => rfl
  | w + 1, n => by simp [beBytes, length_beBytes w n]

theorem beVal_beBytes_mod : ∀ (w n : Nat), beVal (beBytes w n) = n % 256 ^ w
  | 0, n => by simp [beBytes, beVal, Nat.mod_one]
  | w + 1, n => by
    rw [beBytes, beVal, length_beBytes, beVal_beBytes_mod w n, Nat.pow_succ, Nat.mod_mul, Nat.mul_comm, Nat.add_comm]

theorem beVal_beBytes (w n : Nat) (h : n < 256 ^ w) : beVal (beBytes w n) = n := by
  rw [beVal_beBytes_mod, Nat.mod_eq_of_lt h]

end Model.Cbor

namespace Model.CborParser

/-- the parsers' left fold over a big-endian field (`binary::big_to_native`) is `beVal` -/
theorem foldl_be (bs : Bytes) (acc : Nat) :
    bs.foldl (fun a b => a * 256 + b) acc = acc * 256 ^ bs.length + beVal bs := by
  induction bs generalizing acc with
  | nil => simp [beVal]
  | cons b bs ih =>
    simp only [List.foldl_cons, ih, beVal, List.length_cons, Nat.pow_succ]
    rw [Nat.add_mul, Nat.mul_assoc, Nat.mul_comm 256]
    omega

theorem bigToNative_eq_beVal (bs : Bytes) : bigToNative bs = beVal bs := by
  simp [bigToNative, foldl_be]

end Model.CborParser

namespace Model.Bson

theorem length_leBytes : ∀ (w n : Nat), (leBytes w n).length = w
  | 0, _ => rfl
  | w + 1, n => by simp [leBytes, length_leBytes w]

theorem leVal_leBytes_mod : ∀ (w n : Nat), leVal (leBytes w n) = n % 256 ^ w
  | 0, n => by simp [leBytes, leVal, Nat.mod_one]
  | w + 1, n => by
    rw [leBytes, leVal, leVal_leBytes_mod w, Nat.pow_succ, Nat.mul_comm (256 ^ w), Nat.mod_mul]

theorem leVal_leBytes (w n : Nat) (h : n < 256 ^ w) : leVal (leBytes w n) = n := by
  rw [leVal_leBytes_mod, Nat.mod_eq_of_lt h]

end Model.Bson

namespace Spec
open Model.Cbor (beBytes length_beBytes)
open Model.Bson (leBytes length_leBytes)

theorem takeN_append {n : Nat} {d : Bytes} (h : d.length = n) (r : Bytes) : takeN n (d ++ r) = some (d, r) := by
  subst h
  simp [takeN]

theorem takeN_beBytes (w n : Nat) (rest : Bytes) : takeN w (beBytes w n ++ rest) = some (beBytes w n, rest) :=
  takeN_append (length_beBytes w n) rest

theorem takeN_leBytes (w n : Nat) (rest : Bytes) : takeN w (leBytes w n ++ rest) = some (leBytes w n, rest) :=
  takeN_append (length_leBytes w n) rest

/-! `toSigned` on the three shapes in which the encoders write a two's-complement field of `k+1` bits whose modulus is `M = 2^(k+1)`:
    a small natural number as it is, `M + i` for a negative `i`, `i % M` for either sign -/
theorem toSigned_of_lt (k n : Nat) (h : n < 2 ^ k) : toSigned (k + 1) n = n := by
  rw [toSigned, Nat.add_sub_cancel, if_neg (Nat.not_le.2 h)]

theorem toSigned_neg (k : Nat) (M i : Int) (hM : M = 2 ^ (k + 1)) (hlo : -(2 ^ k : Int) ≤ i) (hneg : i < 0) :
    toSigned (k + 1) (M + i).toNat = i := by
  have hp : ((2 ^ k : Nat) : Int) = 2 ^ k := Int.natCast_pow 2 k
  subst hM
  rw [toSigned, Nat.add_sub_cancel, Nat.pow_succ, Int.pow_succ]
  generalize (2 : Int) ^ k = p at *
  generalize 2 ^ k = q at *
  rw [if_pos (by omega)]
  omega

theorem toSigned_emod (k : Nat) (M i : Int) (hM : M = 2 ^ (k + 1)) (hlo : -(2 ^ k : Int) ≤ i) (hhi : i < 2 ^ k) :
    toSigned (k + 1) (i % M).toNat = i := by
  have hp : (2 : Int) ^ (k + 1) = 2 ^ k * 2 := Int.pow_succ 2 k
  have hq : ((2 ^ k : Nat) : Int) = 2 ^ k := Int.natCast_pow 2 k
  by_cases h : 0 ≤ i
  · rw [Int.emod_eq_of_lt h (by omega), toSigned_of_lt k _ (by omega), Int.toNat_of_nonneg h]
  · rw [← Int.add_emod_left M i, Int.emod_eq_of_lt (by omega) (by omega)]
    exact toSigned_neg k M i hM hlo (by omega)

end Spec
end JV
