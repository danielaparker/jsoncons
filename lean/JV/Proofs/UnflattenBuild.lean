/-
  JV.Proofs.UnflattenBuild — `unflatten_object` / `try_unflatten_array` on the sorted pointer map
  of a document give the document back, for the documents described by `roundtrippable`.
  Both loops are computed on the blocks of any sorted list of children whose own maps the recursive
  call rebuilds (`asObject_members`, `asArray_members`); an object is the case of its members, an
  array the case of its elements named by index, which is also why an object with such names comes
  back as an array.
-/
import JV.Proofs.UnflattenSorted
namespace JV
namespace SMap
open Model Model.Pointer Assoc

/-- a non-empty object that `try_unflatten_array` turns into an array: every member name is an
    RFC 6901 array index and the indices are exactly 0..n-1 -/
def arrayLike (ms : List (Bytes × JVal)) : Bool :=
  match ms.mapM (fun kv => (decToIndex kv.1).map fun n => (n, kv.2)) with
  | none => false
  | some ivs => contiguousFrom 0 (emplaceAll natLt [] ivs)

def sortedB : List (Bytes × JVal) → Bool
  | [] => true
  | [_] => true
  | (k, _) :: (k', v') :: ms => keyLt k k' && sortedB ((k', v') :: ms)

mutual
  /-- the documents `unflatten(flatten(d), options)` gives back unchanged (`assume` = assume_object):
      objects sorted by member name (the `jsoncons::json` representation), arrays shorter than 2^64;
      with `assume_object` no non-empty array; with the default option no non-empty object whose
      member names are exactly the array indices 0..n-1.  Empty containers and scalars anywhere
      (also at the root) are fine. -/
  def roundtrippable (assume : Bool) : JVal → Bool
    | .arr xs => (!assume || xs.isEmpty) && decide (xs.length < 2 ^ 64) && rtList assume xs
    | .obj ms => sortedB ms && (assume || ms.isEmpty || !arrayLike ms) && rtMembers assume ms
    | _ => true
  def rtList (assume : Bool) : List JVal → Bool
    | [] => true
    | x :: xs => roundtrippable assume x && rtList assume xs
  def rtMembers (assume : Bool) : List (Bytes × JVal) → Bool
    | [] => true
    | (_, x) :: ms => roundtrippable assume x && rtMembers assume ms
end

theorem sorted_of_sortedB : ∀ {ms : List (Bytes × JVal)}, sortedB ms = true → Assoc.Sorted ms
  | [], _ => trivial
  | [_], _ => trivial
  | (_, _) :: (_, _) :: _, h => by
    simp only [sortedB, Bool.and_eq_true] at h
    exact ⟨h.1, sorted_of_sortedB h.2⟩

mutual
  theorem rt_wf (assume : Bool) : ∀ (d : JVal), roundtrippable assume d = true → JVal.WF d ∧ SmallArrays d
    | .arr xs, h => by
      simp only [roundtrippable, Bool.and_eq_true, decide_eq_true_eq] at h
      have := rtList_wf assume xs h.2
      exact ⟨by simpa [JVal.WF] using this.1, h.1.2, this.2⟩
    | .obj ms, h => by
      simp only [roundtrippable, Bool.and_eq_true] at h
      have := rtMembers_wf assume ms h.2
      exact ⟨⟨sorted_of_sortedB h.1.1, this.1⟩, by simpa [SmallArrays] using this.2⟩
    | .null, _ | .bool _, _ | .int _, _ | .str _, _ => ⟨trivial, trivial⟩
  theorem rtList_wf (assume : Bool) : ∀ (xs : List JVal), rtList assume xs = true → WFList xs ∧ SmallList xs
    | [], _ => ⟨trivial, trivial⟩
    | x :: xs, h => by
      simp only [rtList, Bool.and_eq_true] at h
      have a := rt_wf assume x h.1
      have b := rtList_wf assume xs h.2
      exact ⟨⟨a.1, b.1⟩, ⟨a.2, b.2⟩⟩
  theorem rtMembers_wf (assume : Bool) : ∀ (ms : List (Bytes × JVal)), rtMembers assume ms = true → WFMembers ms ∧ SmallMembers ms
    | [], _ => ⟨trivial, trivial⟩
    | (_, x) :: ms, h => by
      simp only [rtMembers, Bool.and_eq_true] at h
      have a := rt_wf assume x h.1
      have b := rtMembers_wf assume ms h.2
      exact ⟨⟨a.1, b.1⟩, ⟨a.2, b.2⟩⟩
end

theorem mapM_map_congr {α β γ : Type} {f : α → β} {g : β → Option γ} {h : α → Option γ} :
    ∀ {l : List α}, (∀ a ∈ l, g (f a) = h a) → (l.map f).mapM g = l.mapM h
  | [], _ => by simp
  | a :: l, hl => by
    simp only [List.map_cons, List.mapM_cons, hl a List.mem_cons_self,
      mapM_map_congr fun b hb => hl b (List.mem_cons_of_mem _ hb)]

theorem mapM_eq_some {α β : Type} {f : α → Option β} : ∀ {l : List α}, (∀ a ∈ l, ∃ b, f a = some b) →
    ∃ bs, l.mapM f = some bs ∧ ∀ b, b ∈ bs ↔ ∃ a ∈ l, f a = some b
  | [], _ => ⟨[], by simp⟩
  | a :: l, h => by
    obtain ⟨b, hb⟩ := h a List.mem_cons_self
    obtain ⟨bs, hbs, hm⟩ := mapM_eq_some fun x hx => h x (List.mem_cons_of_mem _ hx)
    exact ⟨b :: bs, by simp [List.mapM_cons, hb, hbs], fun y => by simp [hm, hb, eq_comm]⟩

theorem SL_cases (d : JVal) (hg : IsSortedLeaves d) : SL d = [([], d)] ∨ (SL d ≠ [] ∧ ∀ e ∈ SL d, e.1 ≠ []) := by
  cases d with
  | arr xs =>
    cases xs with
    | nil => exact Or.inl (by simp [SL])
    | cons x xs => exact Or.inr ⟨hg.1, by rw [SL]; exact joinBlocks_paths⟩
  | obj ms =>
    cases ms with
    | nil => exact Or.inl (by simp [SL])
    | cons m ms => exact Or.inr ⟨hg.1, by rw [SL]; exact joinBlocks_paths⟩
  | _ => exact Or.inl (by simp [SL])

theorem itemOfBlock_group (t : Bytes) : ∀ (blk : List Entry), blk ≠ [] → (∀ e ∈ blk, e.1 ≠ []) → itemOfBlock (t, blk) = .group t blk
  | [], h, _ => absurd rfl h
  | ([], _) :: _, _, h => absurd rfl (h _ List.mem_cons_self)
  | (_ :: _, _) :: _, _, _ => rfl

theorem build_leaf (f : Nat) (a t : Bool) (v : JVal) : build false (f + 1) a t [([], v)] = v := by
  cases t <;> simp [build, asArray, asObject, items, idxChild, itemIndex]

theorem objStep_block (sub : List Entry → JVal) (jo : List (Bytes × JVal)) (k : Bytes) (x : JVal) (hg : IsSortedLeaves x)
    (hsub : sub (SL x) = x) : objStep false sub jo (itemOfBlock (k, SL x)) = tryEmplace false k x jo := by
  rcases SL_cases x hg with h | h
  · rw [h]; rfl
  · rw [itemOfBlock_group k _ h.1 h.2]; simp [objStep, hsub]

theorem idxChild_block (sub : List Entry → JVal) (k : Bytes) (x : JVal) (hg : IsSortedLeaves x)
    (hsub : sub (SL x) = x) : idxChild sub (itemOfBlock (k, SL x)) = (decToIndex k).map (fun n => (n, x)) := by
  rcases SL_cases x hg with h | h
  · rw [h]; rfl
  · rw [itemOfBlock_group k _ h.1 h.2]; simp [idxChild, itemIndex, hsub]

theorem depth_lt_iff : ∀ (es : List Entry) (f : Nat), depth es < f ↔ 0 < f ∧ ∀ e ∈ es, e.1.length < f
  | [], f => by simp [depth]
  | (ts, v) :: es, f => by
    rw [depth, Nat.max_lt, depth_lt_iff es f, List.forall_mem_cons, and_left_comm]

theorem depth_block {bs : List Block} {b : Block} {f : Nat} (hb : b ∈ bs) (hne : b.2 ≠ [])
    (hd : depth (joinBlocks bs) < f + 1) : depth b.2 < f := by
  have hall : ∀ e ∈ b.2, e.1.length < f := by
    intro e he
    have := ((depth_lt_iff _ _).1 hd).2 (pre b.1 e) (mem_joinBlocks.2 ⟨b, hb, e, he, rfl⟩)
    simp [pre] at this; omega
  obtain ⟨e, he⟩ := List.exists_mem_of_ne_nil _ hne
  exact (depth_lt_iff _ _).2 ⟨Nat.lt_of_le_of_lt (Nat.zero_le _) (hall e he), hall⟩

def Rebuilds (assume : Bool) (d : JVal) : Prop :=
  ∀ fuel, depth (SL d) < fuel → build false fuel (!assume) (!assume) (SL d) = d

theorem rebuilds_leaf (assume : Bool) {d : JVal} (h : SL d = [([], d)]) : Rebuilds assume d := by
  intro fuel hd
  cases fuel with
  | zero => omega
  | succ f => rw [h]; exact build_leaf f _ _ _

theorem asObject_nonroot (sub : List Entry → JVal) : ∀ (es : List Entry), (∀ e ∈ es, e.1 ≠ []) →
    asObject false sub es = .obj ((items es).foldl (objStep false sub) [])
  | [], _ => rfl
  | ([], _) :: _, h => absurd rfl (h _ List.mem_cons_self)
  | (_ :: _, _) :: _, _ => rfl

theorem foldl_congr_mem {α β : Type} {f g : β → α → β} : ∀ {l : List α} {init : β}, (∀ acc, ∀ a ∈ l, f acc a = g acc a) →
    l.foldl f init = l.foldl g init
  | [], _, _ => rfl
  | a :: l, init, h => by
    simp only [List.foldl_cons, h init a List.mem_cons_self]
    exact foldl_congr_mem (fun acc b hb => h acc b (List.mem_cons_of_mem _ hb))

section children
variable (sub : List Entry → JVal) {cs : List (Bytes × JVal)} (hs : SSorted keyLt cs) (hg : ∀ kv ∈ cs, IsSortedLeaves kv.2)
include hs hg

theorem items_members : items (joinBlocks (SLMembers cs)) = cs.map fun kv => itemOfBlock (kv.1, SL kv.2) := by
  rw [items_joinBlocks (ssorted_SLMembers hs), SLMembers_eq_map, List.map_map]
  · rfl
  · intro b hb
    obtain ⟨kv, hkv, rfl⟩ := mem_SLMembers.1 hb
    exact (SL_cases kv.2 (hg kv hkv)).imp_left fun h => ⟨kv.2, h⟩

variable (hsub : ∀ kv ∈ cs, sub (SL kv.2) = kv.2)
include hsub

theorem asObject_members : asObject false sub (joinBlocks (SLMembers cs)) = .obj cs := by
  rw [asObject_nonroot _ _ joinBlocks_paths, items_members hs hg, List.foldl_map,
    foldl_congr_mem (g := fun jo kv => tryEmplace false kv.1 kv.2 jo)
      fun acc kv hkv => objStep_block sub acc kv.1 kv.2 (hg kv hkv) (hsub kv hkv),
    foldl_tryEmplace_sorted hs]

theorem asArray_members : asArray sub (joinBlocks (SLMembers cs)) =
    match cs.mapM (fun kv => (decToIndex kv.1).map fun n => (n, kv.2)) with
    | none => none
    | some ivs =>
      if contiguousFrom 0 (emplaceAll natLt [] ivs) then some (.arr ((emplaceAll natLt [] ivs).map (·.2))) else none := by
  rw [asArray, items_members hs hg,
    mapM_map_congr fun kv hkv => idxChild_block sub kv.1 kv.2 (hg kv hkv) (hsub kv hkv)]
  rfl

end children

/-- `build` on the blocks of sorted children that it rebuilds: the object of these children, unless
    `try_unflatten_array` is tried and reads their names as the indices 0..n-1 -/
theorem build_members {assume : Bool} {cs : List (Bytes × JVal)} (hs : SSorted keyLt cs) (hg : ∀ kv ∈ cs, IsSortedLeaves kv.2)
    (hc : ∀ kv ∈ cs, Rebuilds assume kv.2) {fuel : Nat} (hd : depth (joinBlocks (SLMembers cs)) < fuel + 1) :
    build false (fuel + 1) (!assume) (!assume) (joinBlocks (SLMembers cs)) =
      if assume || !arrayLike cs then .obj cs
      else .arr ((emplaceAll natLt [] ((cs.mapM fun kv => (decToIndex kv.1).map fun n => (n, kv.2)).getD [])).map (·.2)) := by
  -- the recursive call rebuilds every child: their maps are shallower than the parent's
  have hsub : ∀ kv ∈ cs, build false fuel (!assume) (!assume) (SL kv.2) = kv.2 := fun kv hkv =>
    hc kv hkv fuel (depth_block (b := (kv.1, SL kv.2)) (mem_SLMembers.2 ⟨kv, hkv, rfl⟩) (hg kv hkv).1 hd)
  cases assume with
  | true =>
    simp only [Bool.not_true, build, Bool.false_eq_true, if_false, Bool.true_or, if_true]
    exact asObject_members _ hs hg hsub
  | false =>
    simp only [Bool.not_false, build, if_true, asArray_members (build false fuel true true) hs hg hsub,
      asObject_members (build false fuel true true) hs hg hsub, arrayLike, Bool.false_or]
    cases cs.mapM fun kv => (decToIndex kv.1).map fun n => (n, kv.2) with
    | none => rfl
    | some ivs => by_cases h : contiguousFrom 0 (emplaceAll natLt [] ivs) = true <;> simp [h]

theorem rebuild_obj (assume : Bool) (m : Bytes × JVal) (ms : List (Bytes × JVal))
    (hrt : roundtrippable assume (.obj (m :: ms)) = true)
    (hc : ∀ kv ∈ m :: ms, Rebuilds assume kv.2) : Rebuilds assume (.obj (m :: ms)) := by
  intro fuel hd
  cases fuel with
  | zero => omega
  | succ fuel =>
    have hwf := rt_wf assume _ hrt
    have hw' : Assoc.Sorted (m :: ms) ∧ WFMembers (m :: ms) := hwf.1
    have hgood := isSortedLeaves_of_wfMembers (m :: ms) hw'.2
    simp only [roundtrippable, Bool.and_eq_true, List.isEmpty_cons, Bool.or_false] at hrt
    rw [SL] at hd ⊢
    rw [build_members (sorted_iff_ssorted.1 hw'.1) hgood hc hd, if_pos hrt.1.2]

theorem named_index (xs : List JVal) (hl : xs.length < 2 ^ 64) :
    ∃ ivs, (named xs).mapM (fun kv => (decToIndex kv.1).map fun n => (n, kv.2)) = some ivs ∧
      emplaceAll natLt [] ivs = idxPairs 0 xs := by
  have hN := named_spec xs
  have hread : ∀ p ∈ idxPairs 0 xs, (decToIndex (natDigits p.1)).map (fun n => (n, p.2)) = some p := by
    intro p hp
    rw [decToIndex_natDigits p.1 (by have := idxPairs_lt hp; omega)]; rfl
  obtain ⟨ivs, hivs, hmem⟩ := mapM_eq_some (l := named xs)
    (f := fun kv => (decToIndex kv.1).map fun n => (n, kv.2)) fun kv hkv => by
      obtain ⟨p, hp, rfl⟩ := (hN.2 kv).1 hkv
      exact ⟨p, hread p hp⟩
  have hmem' : ∀ q, q ∈ ivs ↔ q ∈ idxPairs 0 xs := by
    intro q
    rw [hmem q]
    constructor
    · rintro ⟨kv, hkv, h⟩
      obtain ⟨p, hp, rfl⟩ := (hN.2 kv).1 hkv
      rw [hread p hp] at h
      cases h; exact hp
    · intro hq
      exact ⟨_, (hN.2 _).2 ⟨q, hq, rfl⟩, hread q hq⟩
  exact ⟨ivs, hivs, emplaceAll_eq natLt_st (idxPairs_sorted xs 0) hmem'⟩

theorem rebuild_arr (x : JVal) (xs : List JVal) (hrt : roundtrippable false (.arr (x :: xs)) = true)
    (hc : ∀ y ∈ x :: xs, Rebuilds false y) : Rebuilds false (.arr (x :: xs)) := by
  intro fuel hd
  cases fuel with
  | zero => omega
  | succ fuel =>
    have hwf := rt_wf false _ hrt
    have hgoodL := isSortedLeaves_of_wfList (x :: xs) hwf.1
    obtain ⟨ivs, hivs, hidx⟩ := named_index (x :: xs) hwf.2.1
    rw [SL_arr] at hd ⊢
    rw [build_members (named_spec (x :: xs)).1 (fun kv hkv => hgoodL _ (named_child hkv))
      (fun kv hkv => hc _ (named_child hkv)) hd]
    simp only [arrayLike, hivs, hidx, idxPairs_contiguous, Bool.not_true, Bool.or_self, Bool.false_eq_true, if_false,
      Option.getD_some, idxPairs_snd]

mutual
  theorem rebuilds (assume : Bool) : ∀ (d : JVal), roundtrippable assume d = true → Rebuilds assume d
    | .arr [], _ => rebuilds_leaf assume (by simp [SL])
    | .arr (x :: xs), h => by
      have h' := h
      simp only [roundtrippable, Bool.and_eq_true] at h'
      cases assume with
      | true => simp at h'
      | false => exact rebuild_arr x xs h (rebuildsList false (x :: xs) h'.2)
    | .obj [], _ => rebuilds_leaf assume (by simp [SL])
    | .obj (m :: ms), h => by
      have h' := h
      simp only [roundtrippable, Bool.and_eq_true] at h'
      exact rebuild_obj assume m ms h (rebuildsMembers assume (m :: ms) h'.2)
    | .null, _ | .bool _, _ | .int _, _ | .str _, _ => rebuilds_leaf assume (by simp [SL])
  theorem rebuildsList (assume : Bool) : ∀ (xs : List JVal), rtList assume xs = true → ∀ y ∈ xs, Rebuilds assume y
    | [], _, _, hy => by cases hy
    | x :: xs, h, y, hy => by
      simp only [rtList, Bool.and_eq_true] at h
      rcases List.mem_cons.1 hy with e | hm
      · rw [e]; exact rebuilds assume x h.1
      · exact rebuildsList assume xs h.2 y hm
  theorem rebuildsMembers (assume : Bool) : ∀ (ms : List (Bytes × JVal)), rtMembers assume ms = true → ∀ kv ∈ ms, Rebuilds assume kv.2
    | [], _, _, hy => by cases hy
    | (k, x) :: ms, h, kv, hy => by
      simp only [rtMembers, Bool.and_eq_true] at h
      rcases List.mem_cons.1 hy with e | hm
      · rw [e]; exact rebuilds assume x h.1
      · exact rebuildsMembers assume ms h.2 kv hm
end

end SMap
end JV
