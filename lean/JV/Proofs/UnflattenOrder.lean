/-
  JV.Proofs.UnflattenOrder — `std::map::emplace` on a strictly increasing list, for any strict total
  order: the result is determined by its set of members (used for the pointer map of `unflatten`,
  the index map of `try_unflatten_array` and, through `tryEmplace_eq_mapEmplace`, sorted objects).
  The three orders `unflatten` sorts by are strict total orders (`std::string` <, `vector<string>` <,
  `size_t` <).
-/
import JV.Model.Unflatten
import JV.Proofs.Assoc
namespace JV
namespace SMap
open Model Model.Pointer Assoc

variable {K V : Type} {lt : K → K → Bool}

theorem mem_mapEmplace (st : StrictTotal lt) (k : K) (v : V) : ∀ (ms : List (K × V)), SSorted lt ms →
    ∀ x, x ∈ mapEmplace lt k v ms ↔ x ∈ ms ∨ (x = (k, v) ∧ ∀ e ∈ ms, e.1 ≠ k)
  | [], _, x => by simp [mapEmplace]
  | (k', v') :: ms, hs, x => by
    simp only [mapEmplace]
    split
    · next h1 => simp [mem_mapEmplace st k v ms hs.2 x, st.ne h1, or_assoc]
    · split
      · next h2 =>
        have hall : ∀ e ∈ ms, ¬ e.1 = k := fun e he e' => st.ne (st.trans h2 (hs.1 e he)) e'.symm
        have hne : k' ≠ k := fun e => st.ne h2 e.symm
        simp only [List.mem_cons, forall_eq_or_imp, ne_eq, hne, not_false_eq_true, true_and]
        rw [or_comm, and_iff_left hall]
      · next h1 h2 =>
        have : k = k' := ((st.tri k k').resolve_left h2).resolve_right h1
        simp [this]

theorem sorted_mapEmplace (st : StrictTotal lt) (k : K) (v : V) : ∀ (ms : List (K × V)), SSorted lt ms →
    SSorted lt (mapEmplace lt k v ms)
  | [], _ => by simp [mapEmplace, SSorted]
  | (k', v') :: ms, hs => by
    simp only [mapEmplace]
    split
    · next h1 =>
      refine ⟨fun e he => ?_, sorted_mapEmplace st k v ms hs.2⟩
      rcases (mem_mapEmplace st k v ms hs.2 e).1 he with h | ⟨h, _⟩
      · exact hs.1 e h
      · exact h ▸ h1
    · split
      · next h2 =>
        refine ⟨fun e he => ?_, hs⟩
        rcases List.mem_cons.1 he with h | h
        · exact h ▸ h2
        · exact st.trans h2 (hs.1 e h)
      · exact hs

def Functional (es : List (K × V)) : Prop := ∀ k v v', (k, v) ∈ es → (k, v') ∈ es → v = v'

theorem functional_of_ssorted (st : StrictTotal lt) : ∀ {l : List (K × V)}, SSorted lt l → Functional l
  | [], _ => fun _ _ _ h => by cases h
  | (k0, v0) :: l, hs => by
    intro k v v' h1 h2
    rcases List.mem_cons.1 h1 with e1 | m1 <;> rcases List.mem_cons.1 h2 with e2 | m2
    · cases e1; cases e2; rfl
    · cases e1; have := hs.1 _ m2; simp [st.irrefl] at this
    · cases e2; have := hs.1 _ m1; simp [st.irrefl] at this
    · exact functional_of_ssorted st hs.2 k v v' m1 m2

theorem functional_map_key {K' : Type} {g : K' → K} (hg : ∀ a b, g a = g b → a = b) {l : List (K' × V)} (hf : Functional l) :
    Functional (l.map fun e => (g e.1, e.2)) := by
  intro k v v' h1 h2
  obtain ⟨e, he, h⟩ := List.mem_map.1 h1
  obtain ⟨e', he', h'⟩ := List.mem_map.1 h2
  have hk : e.1 = e'.1 := hg _ _ ((Prod.mk.inj h).1.trans (Prod.mk.inj h').1.symm)
  rw [← (Prod.mk.inj h).2, ← (Prod.mk.inj h').2]
  exact hf e.1 e.2 e'.2 he (hk ▸ he')

theorem emplaceAll_spec (st : StrictTotal lt) : ∀ (es acc : List (K × V)), SSorted lt acc → Functional (acc ++ es) →
    SSorted lt (emplaceAll lt acc es) ∧ ∀ x, x ∈ emplaceAll lt acc es ↔ x ∈ acc ∨ x ∈ es
  | [], acc, hs, _ => by simp [emplaceAll, hs]
  | (k, v) :: es, acc, hs, hf => by
    have hm := mem_mapEmplace st k v acc hs
    have hsub : ∀ y, y ∈ mapEmplace lt k v acc ++ es → y ∈ acc ++ (k, v) :: es := by
      intro y hy
      rcases List.mem_append.1 hy with h | h
      · rcases (hm y).1 h with h | ⟨h, _⟩
        · exact List.mem_append_left _ h
        · exact List.mem_append_right _ (h ▸ List.mem_cons_self)
      · exact List.mem_append_right _ (List.mem_cons_of_mem _ h)
    have ih := emplaceAll_spec st es (mapEmplace lt k v acc) (sorted_mapEmplace st k v acc hs)
      (fun a b b' h1 h2 => hf a b b' (hsub _ h1) (hsub _ h2))
    refine ⟨ih.1, fun x => ?_⟩
    show x ∈ emplaceAll lt (mapEmplace lt k v acc) es ↔ _
    rw [ih.2 x, hm x, List.mem_cons]
    constructor
    · rintro ((h | ⟨h, _⟩) | h)
      · exact Or.inl h
      · exact Or.inr (Or.inl h)
      · exact Or.inr (Or.inr h)
    · rintro (h | h | h)
      · exact Or.inl (Or.inl h)
      · -- x = (k, v): new, or already in `acc` with (by functionality) the same value
        by_cases hex : ∃ e ∈ acc, e.1 = k
        · obtain ⟨⟨k', v'⟩, he, rfl⟩ := hex
          have : v' = v := hf k' v' v (List.mem_append_left _ he) (List.mem_append_right _ List.mem_cons_self)
          exact Or.inl (Or.inl (by rw [h, ← this]; exact he))
        · exact Or.inl (Or.inr ⟨h, fun e he hk => hex ⟨e, he, hk⟩⟩)
      · exact Or.inr h

theorem emplaceAll_nil (st : StrictTotal lt) (es : List (K × V)) (hf : Functional es) :
    SSorted lt (emplaceAll lt [] es) ∧ ∀ x, x ∈ emplaceAll lt [] es ↔ x ∈ es := by
  have := emplaceAll_spec st es [] trivial hf
  simpa using this

theorem emplaceAll_eq (st : StrictTotal lt) {es l : List (K × V)} (hl : SSorted lt l) (hm : ∀ x, x ∈ es ↔ x ∈ l) :
    emplaceAll lt [] es = l := by
  have := emplaceAll_nil st es fun k v v' h1 h2 => functional_of_ssorted st hl k v v' ((hm _).1 h1) ((hm _).1 h2)
  exact ext st this.1 hl fun x => (this.2 x).trans (hm x)

theorem mapEmplace_map_snd {W : Type} (f : V → W) (k : K) (v : V) : ∀ ms : List (K × V),
    mapEmplace lt k (f v) (ms.map fun e => (e.1, f e.2)) = (mapEmplace lt k v ms).map fun e => (e.1, f e.2)
  | [] => rfl
  | (k', v') :: ms => by
    simp only [List.map_cons, mapEmplace]
    split
    · simp [mapEmplace_map_snd f k v ms]
    · split <;> simp

theorem emplaceAll_map_snd {W : Type} (f : V → W) : ∀ (es acc : List (K × V)),
    emplaceAll lt (acc.map fun e => (e.1, f e.2)) (es.map fun e => (e.1, f e.2)) =
      (emplaceAll lt acc es).map fun e => (e.1, f e.2)
  | [], _ => rfl
  | (k, v) :: es, acc => by
    show emplaceAll lt (mapEmplace lt k (f v) (acc.map _)) (es.map _) = (emplaceAll lt (mapEmplace lt k v acc) es).map _
    rw [mapEmplace_map_snd, emplaceAll_map_snd f es]

theorem natLt_st : StrictTotal natLt := Assoc.natLt_st

theorem toksLt_eq_listLt : ∀ a b : List Bytes, toksLt a b = listLt keyLt a b
  | [], [] => rfl
  | [], _ :: _ => rfl
  | _ :: _, [] => rfl
  | x :: a, y :: b => by simp only [toksLt, listLt, toksLt_eq_listLt a b]

theorem toksLt_st : StrictTotal toksLt := by
  rw [show toksLt = listLt keyLt from funext fun a => funext (toksLt_eq_listLt a)]
  exact keyLt_st.lex

theorem tryEmplace_eq_mapEmplace (k : Bytes) (v : JVal) : ∀ (ms : List (Bytes × JVal)), SSorted keyLt ms →
    tryEmplace false k v ms = mapEmplace keyLt k v ms
  | [], _ => by simp [tryEmplace, find, insertSorted, mapEmplace]
  | (k', v') :: ms, hs => by
    have ih := tryEmplace_eq_mapEmplace k v ms hs.2
    unfold tryEmplace at ih ⊢
    simp only [mapEmplace]
    by_cases h1 : keyLt k' k = true
    · have hne : k' ≠ k := keyLt_ne h1
      simp only [find, hne, if_false, h1, if_true, insertSorted]
      cases hf : find k ms with
      | some _ => simp only [hf] at ih ⊢; rw [← ih]
      | none => simp only [hf, Bool.false_eq_true, if_false] at ih ⊢; rw [ih]
    · simp only [h1]
      by_cases h2 : keyLt k k' = true
      · have hne : k' ≠ k := fun e => keyLt_ne h2 e.symm
        have hn : find k ms = none :=
          find_eq_none_iff.2 (fun e he e' => keyLt_ne (keyLt_trans h2 (hs.1 e he)) e'.symm)
        simp [find, hne, hn, h2, insertSorted, h1]
      · have hk : k' = k := by
          rcases keyLt_trichotomy k k' with h | h | h
          · exact absurd h h2
          · exact h.symm
          · exact absurd h h1
        simp [find, hk, keyLt_irrefl]

theorem foldl_tryEmplace_eq : ∀ (es acc : List (Bytes × JVal)), SSorted keyLt acc →
    es.foldl (fun jo kv => tryEmplace false kv.1 kv.2 jo) acc = emplaceAll keyLt acc es
  | [], _, _ => rfl
  | (k, v) :: es, acc, hs => by
    simp only [List.foldl_cons]
    rw [tryEmplace_eq_mapEmplace k v acc hs, foldl_tryEmplace_eq es _ (sorted_mapEmplace keyLt_st k v acc hs)]
    rfl

theorem foldl_tryEmplace_sorted {ms : List (Bytes × JVal)} (hs : SSorted keyLt ms) :
    ms.foldl (fun jo kv => tryEmplace false kv.1 kv.2 jo) [] = ms := by
  rw [foldl_tryEmplace_eq ms [] trivial]
  exact emplaceAll_eq keyLt_st hs fun _ => Iff.rfl

end SMap
end JV
