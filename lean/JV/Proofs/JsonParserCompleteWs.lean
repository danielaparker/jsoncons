/-
  JV.Proofs.JsonParserCompleteWs — COMPLETENESS ("the parser model accepts every text the RFC 8259 reference accepts"), the single
  cells: white space in the space-skipping states (with the one-character delay of the `cr` state) and the literals
  `true` / `false` / `null`.

  Where the machine lags one character behind the grammar (a CR is popped by the next character; in CompleteNum a number ends
  when the next character arrives or the input ends) the lemmas speak of the REMAINING INPUT: "from state `s` with input `a` the
  machine ends like from state `s'` with input `b`", i.e. `finish (feed cfg s a) = finish (feed cfg s' b)`; the other cells are plain
  `feedChar` / `feed` equations.
-/
import JV.Proofs.JsonParserNotions
namespace JV
namespace Model
namespace JsonParser
open Spec.Rfc8259 (isWs skipWs)

theorem feedChar_ws_plain (cfg : Cfg) (s : St) (c : Nat) (hs : wsState s.st = true) (he : s.err = none)
    (hc : c = 32 ∨ c = 9 ∨ c = 10) : feedChar cfg s c = s :=
  feedChar_ws cfg s s c hs he (by rcases hc with rfl | rfl | rfl <;> rfl) (by simp [spaceOrSlash, hc])

theorem feedChar_ws_cr (cfg : Cfg) (s : St) (hs : wsState s.st = true) (he : s.err = none) : feedChar cfg s 13 = crOf s :=
  feedChar_ws cfg s _ 13 hs he rfl rfl

theorem feedChar_ws_slash (cfg : Cfg) (s : St) (hs : wsState s.st = true) (he : s.err = none) : feedChar cfg s 47 = slashOf s :=
  feedChar_ws cfg s _ 47 hs he rfl rfl

theorem feedChar_crOf (cfg : Cfg) (s : St) (c : Nat) (he : s.err = none) (hc : (stepChar cfg s c).2 = true) :
    feedChar cfg (crOf s) c = if c = 10 then s else feedChar cfg s c := by
  have h1 : stepChar cfg (crOf s) c = (s, decide (c = 10)) := by
    by_cases h10 : c = 10 <;> simp [stepChar, crOf, h10, popTo, push]
  by_cases h10 : c = 10
  · rw [if_pos h10, feedChar_of_consumed cfg (crOf s) c he (by rw [h1]; simp [h10]), h1]
  · rw [if_neg h10]
    exact feedChar_redispatch cfg (crOf s) s c he (by rw [h1]; simp [h10]) he hc

/-- on top of a space-skipping state the `cr` state is invisible: it hands on what is not a LF, a LF is skipped anyway, and at the
    end of the input both stop with the same outcome -/
theorem cr_feed (cfg : Cfg) (s : St) (xs : Bytes) (hs : wsState s.st = true) (he : s.err = none) :
    finish (feed cfg (crOf s) xs) = finish (feed cfg s xs) := by
  cases xs with
  | nil =>
    have ee : (crOf s).err = none := he
    have h1 : finish1 (crOf s) = if s.st = .start then fail s eUnexpectedEof else s := by
      simp [finish1, crOf, parent, push, popTo]
    have h2 : finish1 s = fail s eUnexpectedEof := by
      rcases wsState_cases hs with hst | hst | hst | hst | hst | hst | hst <;> simp [finish1, hst]
    by_cases hst : s.st = .start
    · simp [feed_nil, finish, ee, he, h1, h2, hst, fail]
    · have hd : s.st ≠ .done := by intro h; rw [h] at hs; cases hs
      simp [feed_nil, finish, ee, he, h1, h2, hst, fail, hd]
  | cons c cs =>
    rw [feed_cons, feed_cons, feedChar_crOf cfg s c he (stepChar_consumed_ws cfg s c hs)]
    by_cases h10 : c = 10
    · rw [if_pos h10, feedChar_ws_plain cfg s c hs he (by simp [h10])]
    · rw [if_neg h10]

theorem feed_isWs (cfg : Cfg) (s0 : St) (hs : wsState s0.st = true) (he : s0.err = none) (c : Nat) (cs : Bytes)
    (hw : isWs c = true) : finish (feed cfg s0 (c :: cs)) = finish (feed cfg s0 cs) := by
  rw [feed_cons]
  by_cases h13 : c = 13
  · rw [h13, feedChar_ws_cr cfg s0 hs he, cr_feed cfg s0 cs hs he]
  · rw [feedChar_ws_plain cfg s0 c hs he (by have := (isWs_iff c).1 hw; omega)]

theorem feed_dropWs (cfg : Cfg) (s0 : St) (hs : wsState s0.st = true) (he : s0.err = none) : ∀ (s : Bytes),
    finish (feed cfg s0 s) = finish (feed cfg s0 (dropWs s))
  | [] => rfl
  | c :: cs => by
    by_cases hw : isWs c = true
    · rw [dropWs_cons_ws c cs hw, ← feed_dropWs cfg s0 hs he cs, feed_isWs cfg s0 hs he c cs hw]
    · rw [dropWs_cons_other c cs hw]

theorem feedChar_after_root (cfg : Cfg) (s : St) (c : Nat) (hs : s.st = .accept ∨ s.st = .done) (he : s.err = none) :
    feedChar cfg s c = if isWs c then { s with st := .done } else fail s eExtraCharacter := by
  simp only [isWs_iff]
  rcases hs with hs | hs <;> by_cases hc : c = 32 ∨ c = 9 ∨ c = 10 ∨ c = 13 <;> simp [feedChar, he, stepChar, hs, hc]

theorem finish_feed_ws_accept (cfg : Cfg) : ∀ (s : Bytes) (s0 : St), (s0.st = .accept ∨ s0.st = .done) → s0.err = none →
    dropWs s = [] → accepted (finish (feed cfg s0 s)) = true ∧ (finish (feed cfg s0 s)).evs = s0.evs
  | [], s0, hs, he, _ => by
    rcases hs with hs | hs <;> simp [feed_nil, finish, finish1, he, hs, accepted]
  | c :: cs, s0, hs, he, hd => by
    have hw : isWs c = true := by
      by_cases hw : isWs c = true
      · exact hw
      · rw [dropWs_cons_other c cs hw] at hd; cases hd
    rw [dropWs_cons_ws c cs hw] at hd
    rw [feed_cons, feedChar_after_root cfg s0 c hs he, if_pos hw]
    exact finish_feed_ws_accept cfg cs { s0 with st := .done } (Or.inr rfl) he hd

theorem feed_true (cfg : Cfg) (s0 : St) (r : Bytes) (hs : vState s0.st = true) (he : s0.err = none) :
    feed cfg s0 (116 :: 114 :: 117 :: 101 :: r) = feed cfg (afterLiteral (emit { s0 with st := .tru } (.bool true))) r := by
  rw [feed_cons, feedChar_value cfg s0 { s0 with st := .t } 116 hs he (by simp [valueStart])]
  simp [feed_cons, feedChar, he, stepChar, lit]

theorem feed_false (cfg : Cfg) (s0 : St) (r : Bytes) (hs : vState s0.st = true) (he : s0.err = none) :
    feed cfg s0 (102 :: 97 :: 108 :: 115 :: 101 :: r) = feed cfg (afterLiteral (emit { s0 with st := .fals } (.bool false))) r := by
  rw [feed_cons, feedChar_value cfg s0 { s0 with st := .f } 102 hs he (by simp [valueStart])]
  simp [feed_cons, feedChar, he, stepChar, lit]

theorem feed_null (cfg : Cfg) (s0 : St) (r : Bytes) (hs : vState s0.st = true) (he : s0.err = none) :
    feed cfg s0 (110 :: 117 :: 108 :: 108 :: r) = feed cfg (afterLiteral (emit { s0 with st := .nul } .null)) r := by
  rw [feed_cons, feedChar_value cfg s0 { s0 with st := .n } 110 hs he (by simp [valueStart])]
  simp [feed_cons, feedChar, he, stepChar, lit]

end JsonParser
end Model
end JV
