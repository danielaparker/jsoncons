/-
  JV.Proofs.JsonParserNumber — the number sub-automaton of the parser model (`stepNumber`, json_parser.hpp:1739-1961) seen as a
  DFA (`numNext`). Run as far as it goes (`numScan`) it stops exactly where the RFC 8259 number production stops, from every
  state (`specFrom`); hence it accepts (`numRun`, `numAccepts`) exactly the literals the reference reads as one complete number.
-/
import JV.Proofs.JsonParser
import JV.Proofs.JsonNumberText
namespace JV
namespace Model
namespace JsonParser

/-- the number sub-automaton as a DFA: `some` = the character belongs to the literal -/
def numNext (ns : NS) (c : Nat) : Option NS :=
  match ns with
  | .minus => if 49 ≤ c ∧ c ≤ 57 then some .integer else if c = 48 then some .zero else none
  | .zero => if c = 46 then some .fraction1 else if isExp c then some .exp1 else none
  | .integer => if isDigit c then some .integer else if c = 46 then some .fraction1 else if isExp c then some .exp1 else none
  | .fraction1 => if isDigit c then some .fraction2 else none
  | .fraction2 => if isDigit c then some .fraction2 else if isExp c then some .exp1 else none
  | .exp1 => if c = 45 ∨ c = 43 then some .exp2 else if isDigit c then some .exp3 else none
  | .exp2 => if isDigit c then some .exp3 else none
  | .exp3 => if isDigit c then some .exp3 else none

def numRun : NS → Bytes → Option NS
  | ns, [] => some ns
  | ns, c :: cs => match numNext ns c with
    | some ns' => numRun ns' cs
    | none => none

def numFinal : NS → Bool
  | .zero | .integer | .fraction2 | .exp3 => true
  | _ => false

def numStart (c : Nat) : Option NS :=
  if c = 45 then some .minus else if c = 48 then some .zero else if 49 ≤ c ∧ c ≤ 57 then some .integer else none

def numAccepts : Bytes → Bool
  | [] => false
  | c :: cs => match numStart c with
    | none => false
    | some ns => match numRun ns cs with
      | some f => numFinal f
      | none => false

abbrev takeDigits := Spec.Rfc8259.takeDigits
export Spec.Rfc8259 (parseNumber_split)

theorem isDigit_eq (c : Nat) : JsonParser.isDigit c = Spec.Rfc8259.isDigit c := rfl

theorem takeDigits_fst_nil (bs : Bytes) : (takeDigits bs).1 = [] ↔ (match bs with | [] => True | c :: _ => Spec.Rfc8259.isDigit c = false) := by
  cases bs with
  | nil => simp [takeDigits, Spec.Rfc8259.takeDigits]
  | cons c cs => simp only [takeDigits, Spec.Rfc8259.takeDigits]; by_cases h : Spec.Rfc8259.isDigit c = true <;> simp [h]

theorem takeDigits_cons_digit (c : Nat) (cs : Bytes) (h : Spec.Rfc8259.isDigit c = true) :
    takeDigits (c :: cs) = (c :: (takeDigits cs).1, (takeDigits cs).2) := by
  simp [takeDigits, Spec.Rfc8259.takeDigits, h]

theorem takeDigits_cons_nondigit (c : Nat) (cs : Bytes) (h : Spec.Rfc8259.isDigit c = false) :
    takeDigits (c :: cs) = ([], c :: cs) := by
  simp [takeDigits, Spec.Rfc8259.takeDigits, h]

open Spec.Rfc8259 (pSign pSign_pos pInt pFrac eSign eSign_other pExp pExp_cons afterSign parseNumber_afterSign)

/-! the Spec's number production, stage by stage, as functions to the unconsumed rest -/
def specExp (s3 : Bytes) : Option Bytes := (pExp s3).map (·.2)

def specFrac (s2 : Bytes) : Option Bytes := (pFrac s2).map (·.2)

def specInt (s1 : Bytes) : Option Bytes := (pInt s1).map (·.2)

def specRest (s : Bytes) : Option Bytes := (specInt (pSign s).2).bind fun s2 => (specFrac s2).bind specExp

def numScan : NS → Bytes → NS × Bytes
  | ns, [] => (ns, [])
  | ns, c :: cs => match numNext ns c with
    | some ns' => numScan ns' cs
    | none => (ns, c :: cs)

def scanOK (p : NS × Bytes) : Option Bytes := if numFinal p.1 then some p.2 else none

theorem numScan_spec : ∀ (cs : Bytes) (ns f : NS) (r : Bytes), numScan ns cs = (f, r) →
    ∃ pre, cs = pre ++ r ∧ numRun ns pre = some f ∧ (∀ d r', r = d :: r' → numNext f d = none)
  | [], ns, f, r, h => by
    simp only [numScan, Prod.mk.injEq] at h
    obtain ⟨rfl, rfl⟩ := h
    exact ⟨[], rfl, rfl, by intro d r' e; cases e⟩
  | c :: cs, ns, f, r, h => by
    simp only [numScan] at h
    cases hn : numNext ns c with
    | none =>
      simp only [hn, Prod.mk.injEq] at h
      obtain ⟨rfl, rfl⟩ := h
      exact ⟨[], rfl, rfl, by intro d r' e; cases e; exact hn⟩
    | some ns' =>
      simp only [hn] at h
      obtain ⟨pre, e1, e2, e3⟩ := numScan_spec cs ns' f r h
      exact ⟨c :: pre, by simp [e1], by simp [numRun, hn, e2], e3⟩

/-- what the reference's number production reads on from a state of the DFA: the rest it leaves, if it succeeds -/
def specFrom : NS → Bytes → Option Bytes
  | .minus, r => (specInt r).bind fun s2 => (specFrac s2).bind specExp
  | .zero, r => (specFrac r).bind specExp
  | .integer, r => (specFrac (takeDigits r).2).bind specExp
  | .fraction1, r => if (takeDigits r).1 = [] then none else specExp (takeDigits r).2
  | .fraction2, r => specExp (takeDigits r).2
  | .exp1, r => if (takeDigits (eSign r).2).1 = [] then none else some (takeDigits (eSign r).2).2
  | .exp2, r => if (takeDigits r).1 = [] then none else some (takeDigits r).2
  | .exp3, r => some (takeDigits r).2

theorem specFrom_nil (ns : NS) : specFrom ns [] = if numFinal ns then some [] else none := by
  cases ns <;> rfl

theorem specExp_cons (e : Nat) (r : Bytes) : specExp (e :: r) = if isExp e then specFrom .exp1 r else some (e :: r) := by
  simp only [specExp, pExp_cons, isExp, specFrom]
  by_cases he : (decide (e = 101) || decide (e = 69)) = true
  · simp only [he, if_true]
    split <;> rfl
  · simp only [he]
    rfl

theorem specFrac_bind_cons (c : Nat) (cs : Bytes) : (specFrac (c :: cs)).bind specExp =
    if c = 46 then specFrom .fraction1 cs else if isExp c then specFrom .exp1 cs else some (c :: cs) := by
  by_cases h46 : c = 46
  · subst h46
    simp only [specFrac, pFrac, if_true, specFrom]
    split <;> rfl
  · rw [specFrac, Spec.Rfc8259.pFrac_other c cs h46, if_neg h46]
    exact specExp_cons c cs

theorem specFrom_cons (ns : NS) (c : Nat) (cs : Bytes) : specFrom ns (c :: cs) =
    match numNext ns c with
    | some ns' => specFrom ns' cs
    | none => if numFinal ns then some (c :: cs) else none := by
  have hD : isDigit c = true → takeDigits (c :: cs) = (c :: (takeDigits cs).1, (takeDigits cs).2) := takeDigits_cons_digit c cs
  have hN : ¬ isDigit c = true → takeDigits (c :: cs) = ([], c :: cs) :=
    fun h => takeDigits_cons_nondigit c cs (Bool.eq_false_iff.2 h)
  cases ns <;> simp only [numNext]
  · by_cases h19 : 49 ≤ c ∧ c ≤ 57
    · simp [h19, specFrom, specInt, pInt, show c ≠ 48 by omega]
    · by_cases h48 : c = 48 <;> simp [h19, h48, specFrom, specInt, pInt, numFinal]
  · rw [show specFrom .zero (c :: cs) = _ from specFrac_bind_cons c cs]
    by_cases h46 : c = 46
    · simp [h46]
    · by_cases he : isExp c = true <;> simp [h46, he, numFinal]
  · by_cases hd : isDigit c = true
    · simp [hd, specFrom, hD hd]
    · rw [show specFrom .integer (c :: cs) = (specFrac (takeDigits (c :: cs)).2).bind specExp from rfl, hN hd,
        specFrac_bind_cons]
      by_cases h46 : c = 46
      · subst h46; rfl
      · by_cases he : isExp c = true <;> simp [hd, h46, he, numFinal]
  · by_cases hd : isDigit c = true <;> simp [hd, specFrom, hD, hN, numFinal]
  · by_cases hd : isDigit c = true
    · simp [hd, specFrom, hD hd]
    · by_cases he : isExp c = true <;> simp [hd, he, specFrom, hN hd, specExp_cons, numFinal]
  · by_cases hs : c = 45 ∨ c = 43
    · rcases hs with rfl | rfl <;> simp [specFrom, eSign]
    · have := eSign_other c cs (by omega) (by omega)
      by_cases hd : isDigit c = true <;> simp [hs, hd, specFrom, this, hD, hN, numFinal]
  · by_cases hd : isDigit c = true <;> simp [hd, specFrom, hD, hN, numFinal]
  · by_cases hd : isDigit c = true <;> simp [hd, specFrom, hD, hN, numFinal]

theorem scanOK_numScan : ∀ (r : Bytes) (ns : NS), scanOK (numScan ns r) = specFrom ns r
  | [], ns => (specFrom_nil ns).symm
  | c :: cs, ns => by
    rw [specFrom_cons, numScan]
    cases numNext ns c with
    | some ns' => exact scanOK_numScan cs ns'
    | none => rfl

theorem specRest_cons (c : Nat) (cs : Bytes) : specRest (c :: cs) =
    match numStart c with
    | some ns0 => specFrom ns0 cs
    | none => none := by
  by_cases h45 : c = 45
  · subst h45; rfl
  · -- without a sign the start is the DFA's move out of `minus`
    have hm : numStart c = numNext .minus c := by
      simp only [numStart, numNext, if_neg h45]
      by_cases h48 : c = 48
      · subst h48; rfl
      · by_cases h19 : 49 ≤ c ∧ c ≤ 57 <;> simp [h48, h19]
    rw [show specRest (c :: cs) = specFrom .minus (pSign (c :: cs)).2 from rfl, pSign_pos c cs h45, specFrom_cons, hm]
    cases numNext .minus c <;> rfl

theorem numRun_eq_scan : ∀ (bs : Bytes) (ns : NS),
    numRun ns bs = match numScan ns bs with
      | (f, []) => some f
      | _ => none
  | [], ns => rfl
  | c :: cs, ns => by
    simp only [numRun, numScan]
    cases numNext ns c with
    | some ns' => exact numRun_eq_scan cs ns'
    | none => rfl

theorem numAccepts_iff_specRest (bs : Bytes) : numAccepts bs = true ↔ specRest bs = some [] := by
  cases bs with
  | nil => simp [numAccepts, specRest, pSign, specInt, pInt]
  | cons c cs =>
    rw [specRest_cons, numAccepts]
    cases numStart c with
    | none => simp
    | some ns =>
      simp only [← scanOK_numScan, numRun_eq_scan]
      rcases numScan ns cs with ⟨f, _ | ⟨d, r⟩⟩ <;> cases hf : numFinal f <;> simp [scanOK, hf]

/-- the reference's number production, seen as "what is left after the longest number prefix" -/
theorem parseNumber_rest (s : Bytes) : (Spec.Rfc8259.parseNumber s).map (·.2) = specRest s := by
  rw [parseNumber_afterSign]
  simp only [afterSign, specRest, specInt, specFrac]
  rcases pInt (pSign s).2 with _ | ⟨ip, s2⟩
  · rfl
  simp only [Option.map_some, Option.bind_some]
  rcases pFrac s2 with _ | ⟨fp, s3⟩
  · rfl
  simp only [Option.map_some, Option.bind_some, specExp]
  rcases pExp s3 with _ | ⟨ep, s4⟩ <;> rfl

theorem numAccepts_iff (bs : Bytes) : numAccepts bs = true ↔ ∃ lit, Spec.Rfc8259.parseNumber bs = some (lit, []) := by
  rw [numAccepts_iff_specRest, ← parseNumber_rest]
  cases h : Spec.Rfc8259.parseNumber bs with
  | none => simp
  | some p => obtain ⟨l, t⟩ := p; simp

def isIntNS : NS → Bool
  | .minus | .zero | .integer => true
  | _ => false

/-- `end_integer_value` / `end_fraction_value` according to the sub-state -/
def endNum (s : St) : St := if isIntNS s.ns then endInteger s else endFraction s

theorem stepNumber_eq (s : St) (c : Nat) : stepNumber s c =
    match numNext s.ns c with
    | some ns' => ({ s with buf := s.buf ++ [c], ns := ns' }, true)
    | none =>
      if numFinal s.ns = false then (fail s eInvalidNumber, true)
      else if s.ns = .zero ∧ isDigit c = true then (fail s eLeadingZero, true)
      else (endNum s, false) := by
  unfold stepNumber endNum
  cases hns : s.ns <;> simp only [numNext, numFinal, isIntNS]
  · by_cases h19 : 49 ≤ c ∧ c ≤ 57
    · simp [h19]
    · by_cases h48 : c = 48 <;> simp [h19, h48]
  · by_cases h46 : c = 46
    · simp [h46]
    · by_cases he : isExp c = true
      · simp [h46, he]
      · by_cases hd : isDigit c = true <;> simp [h46, he, hd]
  · by_cases hd : isDigit c = true
    · simp [hd]
    · by_cases h46 : c = 46
      · subst h46; rfl
      · by_cases he : isExp c = true <;> simp [hd, h46, he]
  · by_cases hd : isDigit c = true <;> simp [hd]
  · by_cases hd : isDigit c = true
    · simp [hd]
    · by_cases he : isExp c = true <;> simp [hd, he]
  · by_cases hs : c = 45 ∨ c = 43
    · simp [hs]
    · by_cases hd : isDigit c = true <;> simp [hs, hd]
  · by_cases hd : isDigit c = true <;> simp [hd]
  · by_cases hd : isDigit c = true <;> simp [hd]

theorem stepNumber_of_numNext (s : St) (c : Nat) (ns' : NS) (h : numNext s.ns c = some ns') :
    stepNumber s c = ({ s with buf := s.buf ++ [c], ns := ns' }, true) := by
  rw [stepNumber_eq, h]

theorem stepNumber_nonfinal (s : St) (d : Nat) (hf : numFinal s.ns = false) (hn : numNext s.ns d = none) :
    stepNumber s d = (fail s eInvalidNumber, true) := by
  rw [stepNumber_eq, hn]
  exact if_pos hf

theorem numFinal_next (f : NS) (d : Nat) (hf : numFinal f = true) (hn : numNext f d = none) :
    (f = .zero ∧ isDigit d = true) ∨ isDigit d = false := by
  by_cases hd : isDigit d = true
  · left
    cases f <;> first | exact Bool.noConfusion hf | exact ⟨rfl, hd⟩ | simp [numNext, hd] at hn
  · exact Or.inr (Bool.eq_false_iff.2 hd)

theorem valueStart_num (cfg : Cfg) (s : St) (c : Nat) (ns0 : NS) (h : numStart c = some ns0) :
    valueStart cfg s c = some { s with st := .number, ns := ns0, buf := [c] } := by
  unfold numStart at h
  unfold valueStart
  (repeat' split at h) <;> cases h
  · rename_i h1; subst h1; simp
  · rename_i h1 h2; subst h2; simp
  · rename_i h1 h2 h3
    have e1 : c ≠ 123 := by omega
    have e2 : c ≠ 91 := by omega
    have e3 : c ≠ 34 := by omega
    simp [e1, e2, e3, h1, h2, h3]

theorem numStart_range (c : Nat) (ns0 : NS) (h : numStart c = some ns0) : c = 45 ∨ (48 ≤ c ∧ c ≤ 57) := by
  unfold numStart at h
  (repeat' split at h) <;> cases h <;> omega

theorem stepNumber_leading_zero (s : St) (d : Nat) (hz : s.ns = .zero) (hd : isDigit d = true) :
    stepNumber s d = (fail s eLeadingZero, true) := by
  have h46 : d ≠ 46 := by simp [isDigit] at hd; omega
  have he : isExp d = false := by simp [isDigit] at hd; simp [isExp]; omega
  rw [stepNumber_eq]
  simp [numNext, numFinal, hz, h46, he, hd]

theorem feedChar_number (cfg : Cfg) (s : St) (c : Nat) (ns' : NS) (hst : s.st = .number) (he : s.err = none)
    (h : numNext s.ns c = some ns') : feedChar cfg s c = { s with buf := s.buf ++ [c], ns := ns' } := by
  simp [feedChar, he, stepChar, hst, stepNumber_of_numNext s c ns' h]

theorem feed_number (cfg : Cfg) (bs : Bytes) : ∀ (s : St) (ns' : NS), s.st = .number → s.err = none →
    numRun s.ns bs = some ns' → feed cfg s bs = { s with buf := s.buf ++ bs, ns := ns' } := by
  induction bs with
  | nil => intro s ns' _ _ h; simp [numRun] at h; subst h; simp [feed]
  | cons c cs ih =>
    intro s ns' hst he h
    simp only [numRun] at h
    cases hn : numNext s.ns c with
    | none => simp [hn] at h
    | some n1 =>
      simp only [hn] at h
      simp only [feed, List.foldl_cons, feedChar_number cfg s c n1 hst he hn]
      have := ih { s with buf := s.buf ++ [c], ns := n1 } ns' hst he h
      simp only [feed] at this
      rw [this]; simp

theorem feed_number_scan (cfg : Cfg) (s0 : St) (c : Nat) (cs : Bytes) (ns0 f : NS) (r : Bytes) (hv : vState s0.st = true)
    (he : s0.err = none) (hs : numStart c = some ns0) (hsc : numScan ns0 cs = (f, r)) :
    ∃ pre, cs = pre ++ r ∧ numRun ns0 pre = some f ∧ (∀ d r', r = d :: r' → numNext f d = none) ∧
      Spec.Rfc8259.parseNumber (c :: cs) = (if numFinal f then some (c :: pre, r) else none) ∧
      feed cfg s0 (c :: cs) = feed cfg { s0 with st := .number, ns := f, buf := c :: pre } r := by
  obtain ⟨pre, rfl, e2, e3⟩ := numScan_spec cs ns0 f r hsc
  refine ⟨pre, rfl, e2, e3, ?_, ?_⟩
  · have hrest : (Spec.Rfc8259.parseNumber (c :: (pre ++ r))).map (·.2) = if numFinal f then some r else none := by
      simp only [parseNumber_rest, specRest_cons, hs, ← scanOK_numScan, hsc, scanOK]
    cases hf : numFinal f <;> simp only [hf, Bool.false_eq_true, if_false, if_true] at hrest ⊢
    · exact Option.map_eq_none_iff.1 hrest
    · obtain ⟨⟨lit, r'⟩, hp, rfl⟩ := Option.map_eq_some_iff.1 hrest
      have h2 := parseNumber_split _ _ _ hp
      rw [← List.cons_append] at h2
      rw [hp, List.append_cancel_right h2]
  · rw [feed_cons, feedChar_value cfg s0 _ c hv he (valueStart_num cfg s0 c ns0 hs), feed_append,
      feed_number cfg pre { s0 with st := .number, ns := ns0, buf := [c] } f rfl he e2]
    rfl

theorem number_text_accepted (cfg : Cfg) (lit : Bytes) (h : numAccepts lit = true) :
    accepted (run cfg lit) = true ∧ ((run cfg lit).evs = [Ev.int lit] ∨ (run cfg lit).evs = [Ev.frac lit]) := by
  cases lit with
  | nil => simp [numAccepts] at h
  | cons c cs =>
    simp only [numAccepts] at h
    cases hs : numStart c with
    | none => simp [hs] at h
    | some ns0 =>
      simp only [hs] at h
      cases hr : numRun ns0 cs with
      | none => simp [hr] at h
      | some f =>
        simp only [hr] at h
        unfold run
        rw [feed_cons, feedChar_value cfg init _ c rfl rfl (valueStart_num cfg init c ns0 hs),
          feed_number cfg cs { init with st := .number, ns := ns0, buf := [c] } f rfl rfl hr]
        cases f <;> simp [numFinal] at h <;>
          simp [finish, finish1, endInteger, endFraction, afterValue, parent, emit, init, accepted]

end JsonParser
end Model
end JV
