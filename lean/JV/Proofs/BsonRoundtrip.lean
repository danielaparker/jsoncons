/-
  JV.Proofs.BsonRoundtrip — what the BSON encoder model writes, the reference BSON decoder (JV.Spec.Bson, the one the real decoder
  is judged by in C07) reads back: little-endian fields, C-string names, the back-patched document length, array items under the
  names "0", "1", …, the int32 / int64 choice, the binary subtype.
-/
import JV.Model.Bson
import JV.Spec.BinFormats
import JV.Proofs.Bytes
namespace JV.Model.Bson
open Spec Spec.Bson
open Spec.Cbor (BV Res)
open Cbor (CV)

theorem cstring_name : ∀ (name r : Bytes), 0 ∉ name → cstring (name ++ 0 :: r) = some (name, r)
  | [], r, _ => by simp [cstring]
  | c :: cs, r, h => by
    have hc : c ≠ 0 := by intro e; apply h; simp [e]
    have hcs : 0 ∉ cs := by intro e; apply h; simp [e]
    have ih := cstring_name cs r hcs
    cases c with
    | zero => exact absurd rfl hc
    | succ c => simp [cstring, ih]

theorem validUtf8_ascii : ∀ (s : Bytes), (∀ c ∈ s, c < 128) → Rfc8259.validUtf8 s = true
  | [], _ => by simp [Rfc8259.validUtf8]
  | c :: cs, h => by
    have hc : c < 128 := h c (by simp)
    have ih := validUtf8_ascii cs (fun d hd => h d (by simp [hd]))
    rw [Rfc8259.validUtf8.eq_def]
    simp [hc, ih]

theorem decDigits_range : ∀ (f n : Nat), ∀ c ∈ decDigits f n, 48 ≤ c ∧ c ≤ 57
  | 0, n => by simp [decDigits]; omega
  | f + 1, n => by
    intro c hc
    unfold decDigits at hc
    split at hc
    · simp at hc; omega
    · simp at hc
      rcases hc with hc | hc
      · exact decDigits_range f _ c hc
      · omega

theorem document_doc (fuel : Nat) (body rest : Bytes) (ms : List (Bytes × BV)) (hlen : body.length + 5 < 2 ^ 32)
    (he : elements fuel (body ++ [0]) = .ok ms []) :
    document (fuel + 1) (doc body ++ rest) = .ok ms rest := by
  have h1 : doc body ++ rest = leBytes 4 (body.length + 5) ++ ((body ++ [0]) ++ rest) := by simp [doc]
  have h2 : (body.length + 5 - 4) = (body ++ [0]).length := by simp
  rw [h1]
  simp only [document, takeN_leBytes, leVal_leBytes 4 _ hlen]
  have h3 : ¬ (body.length + 5 < 5 ∨ (leBytes 4 (body.length + 5) ++ ((body ++ [0]) ++ rest)).length < body.length + 5) := by
    simp [length_leBytes]; omega
  rw [if_neg h3, h2, List.take_left, List.drop_left, he]

mutual
  /-- what a BSON reader delivers for an element value: everything itself, except that a byte string carries the "ext" mark
      (it was written with the user-defined binary subtype 0x80) -/
  def toBVb : CV → BV
    | .null => .null
    | .bool b => .bool b
    | .int i => .int i ""
    | .dbl b => .dbl b ""
    | .str s => .str s ""
    | .bytes b => .bytes b "ext"
    | .arr xs => .arr (toBVbList xs)
    | .map ms => .map (toBVbMembers ms)
  def toBVbList : List CV → List BV
    | [] => []
    | x :: xs => toBVb x :: toBVbList xs
  def toBVbMembers : List (Bytes × CV) → List (Bytes × BV)
    | [] => []
    | (k, x) :: ms => (k, toBVb x) :: toBVbMembers ms
end

def indexed : Nat → List CV → List (Bytes × BV)
  | _, [] => []
  | i, x :: xs => (indexName i, toBVb x) :: indexed (i + 1) xs

theorem indexed_values : ∀ (i : Nat) (xs : List CV), (indexed i xs).map (·.2) = toBVbList xs
  | _, [] => rfl
  | i, x :: xs => by simp [indexed, toBVbList, indexed_values (i + 1) xs]

/-- the root: a document as itself; an array as the document keyed by its indices -/
def toBVRoot : CV → BV
  | .arr xs => .map (indexed 0 xs)
  | v => toBVb v

/-- an element name the format can carry: no 0x00 inside (it is a C string), UTF-8 -/
def NameOK (k : Bytes) : Prop := 0 ∉ k ∧ Rfc8259.validUtf8 k = true

mutual
  def OKv : CV → Prop
    | .int i => -(2 ^ 63 : Int) ≤ i ∧ i < 2 ^ 63
    | .dbl b => b < 2 ^ 64
    | .str s => Rfc8259.validUtf8 s = true
    | .arr xs => OKvList xs
    | .map ms => OKvMembers ms
    | _ => True
  def OKvList : List CV → Prop
    | [] => True
    | x :: xs => OKv x ∧ OKvList xs
  def OKvMembers : List (Bytes × CV) → Prop
    | [] => True
    | (k, x) :: ms => NameOK k ∧ OKv x ∧ OKvMembers ms
end

/-- BSON's domain on the core: the root is a container; element names without 0x00 and in UTF-8; integers in [-2^63, 2^63);
    doubles as 64-bit patterns; UTF-8 text; the whole document shorter than 2^31 bytes (its length is an int32 - and so, a fortiori,
    is every nested document, string and byte string); nesting within the encoder's default max_nesting_depth -/
def OKb (v : CV) : Prop := (encode v).isSome = true ∧ OKv v ∧ (value v).length < 2 ^ 31 ∧ depth v ≤ 1024

theorem indexName_ok (i : Nat) : NameOK (indexName i) := by
  have h := decDigits_range i i
  refine ⟨fun h0 => ?_, validUtf8_ascii _ (fun c hc => by have := h c hc; omega)⟩
  have := h 0 h0
  omega

mutual
  /-- the fuel `document` needs for a container value (0: not a container) -/
  def needV : CV → Nat
    | .arr xs => 1 + needL xs
    | .map ms => 1 + needM ms
    | _ => 0
  /-- the fuel `elements` needs -/
  def needL : List CV → Nat
    | [] => 1
    | x :: xs => 1 + max (needV x) (needL xs)
  def needM : List (Bytes × CV) → Nat
    | [] => 1
    | (_, x) :: ms => 1 + max (needV x) (needM ms)
end

theorem length_doc (body : Bytes) : (doc body).length = body.length + 5 := by
  simp [doc, length_leBytes]; omega

mutual
  theorem value_el : ∀ (x : CV) (name tl : Bytes) (ms : List (Bytes × BV)) (fuel : Nat),
      OKv x → NameOK name → (value x).length < 2 ^ 31 → needV x ≤ fuel → elements fuel tl = .ok ms [] →
      elements (fuel + 1) (typeCode x :: (name ++ 0 :: (value x ++ tl))) = .ok ((name, toBVb x) :: ms) []
    | .null, name, tl, ms, fuel, _, hn, _, _, hr => by
      simp [typeCode, value, toBVb, elements, cstring_name name _ hn.1, hn.2, hr]
    | .bool b, name, tl, ms, fuel, _, hn, _, _, hr => by
      cases b <;> simp [typeCode, value, toBVb, elements, cstring_name name _ hn.1, hn.2, hr]
    | .int i, name, tl, ms, fuel, h, hn, _, _, hr => by
      have h' : -(2 ^ 63 : Int) ≤ i ∧ i < 2 ^ 63 := h
      by_cases hf : fitsInt32 i = true
      · have hf' : -2147483648 ≤ i ∧ i ≤ 2147483647 := by simpa [fitsInt32] using hf
        have hb : (i % 4294967296).toNat < 256 ^ 4 := by omega
        have hs : toSigned 32 (i % 4294967296).toNat = i := toSigned_emod 31 _ i (by decide) (by omega) (by omega)
        simp [typeCode, value, toBVb, hf, elements, int32Bytes, cstring_name name _ hn.1, hn.2, takeN_leBytes, leVal_leBytes 4 _ hb, hs, hr]
      · have hf' : ¬ (-2147483648 ≤ i ∧ i ≤ 2147483647) := by simpa [fitsInt32] using hf
        have hb : (i % 18446744073709551616).toNat < 256 ^ 8 := by omega
        have hs : toSigned 64 (i % 18446744073709551616).toNat = i := toSigned_emod 63 _ i (by decide) (by omega) (by omega)
        simp [typeCode, value, toBVb, hf, elements, int64Bytes, cstring_name name _ hn.1, hn.2, takeN_leBytes, leVal_leBytes 8 _ hb, hs, hr]
    | .dbl b, name, tl, ms, fuel, h, hn, _, _, hr => by
      have h' : b < 2 ^ 64 := h
      simp [typeCode, value, toBVb, elements, cstring_name name _ hn.1, hn.2, takeN_leBytes, leVal_leBytes 8 b h', hr]
    | .str s, name, tl, ms, fuel, h, hn, hl, _, hr => by
      have h' : Rfc8259.validUtf8 s = true := h
      have hl' : s.length + 1 < 256 ^ 4 := by simp [value, length_leBytes] at hl; omega
      have ht : takeN (s.length + 1) (s ++ 0 :: tl) = some (s ++ [0], tl) := by
        have := takeN_append (d := s ++ [0]) (n := s.length + 1) (by simp) tl
        simpa using this
      simp [typeCode, value, toBVb, elements, cstring_name name _ hn.1, hn.2, takeN_leBytes, leVal_leBytes 4 _ hl', ht, h', hr]
    | .bytes b, name, tl, ms, fuel, _, hn, hl, _, hr => by
      have hl' : b.length < 2 ^ 31 := by simp [value, length_leBytes] at hl; omega
      have hn31 : ¬ (2147483648 ≤ b.length) := by omega
      simp [typeCode, value, toBVb, elements, cstring_name name _ hn.1, hn.2, takeN_leBytes, leVal_leBytes 4 b.length (by omega),
        takeN_append rfl, hn31, hr]
    | .arr xs, name, tl, ms, fuel, h, hn, hl, hf, hr => by
      have hf : 1 + needL xs ≤ fuel := hf
      obtain ⟨f, rfl⟩ : ∃ f, fuel = f + 1 := ⟨fuel - 1, by omega⟩
      have hl' : (arrBody 0 xs).length + 5 < 2 ^ 31 := by simpa [value, length_doc] using hl
      have ih := arr_els xs 0 f h (by omega) (by omega)
      have hd := document_doc f (arrBody 0 xs) tl _ (by omega) ih
      simp [typeCode, value, toBVb, indexed_values, elements, cstring_name name _ hn.1, hn.2, hd, hr]
    | .map ks, name, tl, ms, fuel, h, hn, hl, hf, hr => by
      have hf : 1 + needM ks ≤ fuel := hf
      obtain ⟨f, rfl⟩ : ∃ f, fuel = f + 1 := ⟨fuel - 1, by omega⟩
      have hl' : (mapBody ks).length + 5 < 2 ^ 31 := by simpa [value, length_doc] using hl
      have ih := map_els ks f h (by omega) (by omega)
      have hd := document_doc f (mapBody ks) tl _ (by omega) ih
      simp [typeCode, value, toBVb, elements, cstring_name name _ hn.1, hn.2, hd, hr]
  theorem arr_els : ∀ (xs : List CV) (i fuel : Nat), OKvList xs → (arrBody i xs).length < 2 ^ 31 → needL xs ≤ fuel →
      elements fuel (arrBody i xs ++ [0]) = .ok (indexed i xs) []
    | [], i, fuel, _, _, hf => by
      have hf : 1 ≤ fuel := hf
      obtain ⟨f, rfl⟩ : ∃ f, fuel = f + 1 := ⟨fuel - 1, by omega⟩
      simp [arrBody, elements, indexed]
    | x :: xs, i, fuel, h, hl, hf => by
      have hf : 1 + max (needV x) (needL xs) ≤ fuel := hf
      obtain ⟨f, rfl⟩ : ∃ f, fuel = f + 1 := ⟨fuel - 1, by omega⟩
      have hl' : (value x).length + (arrBody (i + 1) xs).length < 2 ^ 31 := by
        simp [arrBody] at hl; omega
      have ih := arr_els xs (i + 1) f h.2 (by omega) (by omega)
      have := value_el x (indexName i) (arrBody (i + 1) xs ++ [0]) _ f h.1 (indexName_ok i) (by omega) (by omega) ih
      simpa [arrBody, indexed] using this
  theorem map_els : ∀ (ks : List (Bytes × CV)) (fuel : Nat), OKvMembers ks → (mapBody ks).length < 2 ^ 31 → needM ks ≤ fuel →
      elements fuel (mapBody ks ++ [0]) = .ok (toBVbMembers ks) []
    | [], fuel, _, _, hf => by
      have hf : 1 ≤ fuel := hf
      obtain ⟨f, rfl⟩ : ∃ f, fuel = f + 1 := ⟨fuel - 1, by omega⟩
      simp [mapBody, elements, toBVbMembers]
    | (k, x) :: ks, fuel, h, hl, hf => by
      have hf : 1 + max (needV x) (needM ks) ≤ fuel := hf
      obtain ⟨f, rfl⟩ : ∃ f, fuel = f + 1 := ⟨fuel - 1, by omega⟩
      have hl' : (value x).length + (mapBody ks).length < 2 ^ 31 := by
        simp [mapBody] at hl; omega
      have ih := map_els ks f h.2.2 (by omega) (by omega)
      have := value_el x k (mapBody ks ++ [0]) _ f h.2.1 h.1 (by omega) (by omega) ih
      simpa [mapBody, toBVbMembers] using this
end

theorem enc_dec (v : CV) (hv : OKb v) (rest : Bytes) (fuel : Nat) (hf : needV v ≤ fuel) :
    ∃ bytes, encode v = some bytes ∧ decodeWith fuel (bytes ++ rest) = .ok (toBVRoot v) rest := by
  obtain ⟨hr, hk, hl, _⟩ := hv
  cases v with
  | arr xs =>
    have hf : 1 + needL xs ≤ fuel := hf
    obtain ⟨f, rfl⟩ : ∃ f, fuel = f + 1 := ⟨fuel - 1, by omega⟩
    have hl' : (arrBody 0 xs).length + 5 < 2 ^ 31 := by simpa [value, length_doc] using hl
    have ih := arr_els xs 0 f hk (by omega) (by omega)
    exact ⟨_, rfl, by simp [decodeWith, document_doc f _ rest _ (by omega) ih, toBVRoot]⟩
  | map ks =>
    have hf : 1 + needM ks ≤ fuel := hf
    obtain ⟨f, rfl⟩ : ∃ f, fuel = f + 1 := ⟨fuel - 1, by omega⟩
    have hl' : (mapBody ks).length + 5 < 2 ^ 31 := by simpa [value, length_doc] using hl
    have ih := map_els ks f hk (by omega) (by omega)
    exact ⟨_, rfl, by simp [decodeWith, document_doc f _ rest _ (by omega) ih, toBVRoot, toBVb]⟩
  | _ => simp [encode] at hr

/-! ### the entry point's own fuel (2·length + 2) is enough -/
mutual
  theorem needV_le : ∀ (x : CV), needV x ≤ (value x).length + 1
    | .arr xs => by
      have := needL_le xs 0
      simp [needV, value, length_doc]; omega
    | .map ks => by
      have := needM_le ks
      simp [needV, value, length_doc]; omega
    | .null | .bool _ | .int _ | .dbl _ | .str _ | .bytes _ => by simp [needV]
  theorem needL_le : ∀ (xs : List CV) (i : Nat), needL xs ≤ (arrBody i xs).length + 1
    | [], _ => by simp [needL]
    | x :: xs, i => by
      have h1 := needV_le x
      have h2 := needL_le xs (i + 1)
      simp [needL, arrBody]; omega
  theorem needM_le : ∀ (ks : List (Bytes × CV)), needM ks ≤ (mapBody ks).length + 1
    | [] => by simp [needM]
    | (k, x) :: ks => by
      have h1 := needV_le x
      have h2 := needM_le ks
      simp [needM, mapBody]; omega
end

theorem encode_eq_value (v : CV) (b : Bytes) (h : encode v = some b) : b = value v := by
  cases v <;> simp [encode, value] at h ⊢ <;> exact h.symm

theorem decode_encode (v : CV) (hv : OKb v) (rest : Bytes) :
    ∃ bytes, encode v = some bytes ∧ decode (bytes ++ rest) = .ok (toBVRoot v) rest := by
  obtain ⟨b, hb⟩ : ∃ b, encode v = some b := Option.isSome_iff_exists.mp hv.1
  have e := encode_eq_value v b hb
  have hf : needV v ≤ 2 * (b ++ rest).length + 2 := by
    have := needV_le v
    rw [e]; simp; omega
  obtain ⟨b', hb', hd⟩ := enc_dec v hv rest _ hf
  rw [hb] at hb'; cases hb'
  exact ⟨b, hb, hd⟩

/-! ### `OKb` lies inside what the real encoder accepts -/
mutual
  theorem scalarsOK_of_OKv : ∀ (x : CV), OKv x → scalarsOK x = true
    | .null, _ => rfl
    | .bool _, _ => rfl
    | .int i, h => by
      have h' : -(2 ^ 63 : Int) ≤ i ∧ i < 2 ^ 63 := by simpa [OKv] using h
      simp [scalarsOK]; omega
    | .dbl _, _ => rfl
    | .str s, h => by simpa [OKv, scalarsOK] using h
    | .bytes _, _ => rfl
    | .arr xs, h => by simpa [scalarsOK] using scalarsOKList_of xs (by simpa [OKv] using h)
    | .map ks, h => by simpa [scalarsOK] using scalarsOKMembers_of ks (by simpa [OKv] using h)
  theorem scalarsOKList_of : ∀ (xs : List CV), OKvList xs → scalarsOKList xs = true
    | [], _ => rfl
    | x :: xs, h => by simp [scalarsOKList, scalarsOK_of_OKv x h.1, scalarsOKList_of xs h.2]
  theorem scalarsOKMembers_of : ∀ (ks : List (Bytes × CV)), OKvMembers ks → scalarsOKMembers ks = true
    | [], _ => rfl
    | (k, x) :: ks, h => by
      have hn : nameOK k = true := by simp [nameOK, h.1.1, h.1.2]
      simp [scalarsOKMembers, hn, scalarsOK_of_OKv x h.2.1, scalarsOKMembers_of ks h.2.2]
end

end JV.Model.Bson
