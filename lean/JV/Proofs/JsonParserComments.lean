/-
  JV.Proofs.JsonParserComments — `allow_comments`, both directions: in every space-skipping state the parser model skips exactly what the
  reference's `ws`-with-comments skips (`/* … */` with the `slash_star` / `slash_star_star` states and the `cr` state inside a block
  comment, `// …` up to — not including — the next CR or LF), reporting nothing, and does not accept where the reference's `ws` fails
  or stops at a `/` (`feed_skipWs`). Hence `SkipOK cfg true`, the hypothesis under which the forward simulation of
  Proofs/JsonParserComplete is carried out, and completeness for the comment-enabled configurations; and conversely an ACCEPTING run
  has skipped exactly that (`acc_skip`, the comment-aware form of `Acc.ws`), which with `value_head_of_ne_slash` and `scalar_inv` gives
  soundness with comments on for documents whose root is a literal or a number (Props/C02).
-/
import JV.Proofs.JsonParserSoundCtx
namespace JV
namespace Model
namespace JsonParser
open Spec.Rfc8259 (JT Flags parseValue parseText skipWs skipLine skipBlock isWs)

/-! ### the comment states entered from a space-skipping state `s` -/

def lineOf (s : St) : St := { (push s s.st) with st := .slashSlash }
def blockOf (s : St) : St := { (push s s.st) with st := .slashStar }
def starOf (s : St) : St := { (push s s.st) with st := .slashStarStar }

theorem feedChar_slash_slash (cfg : Cfg) (hc : cfg.comments = true) (s : St) (he : s.err = none) :
    feedChar cfg (slashOf s) 47 = lineOf s := by
  simp [feedChar, stepChar, slashOf, lineOf, push, he, hc]

theorem feedChar_slash_star (cfg : Cfg) (hc : cfg.comments = true) (s : St) (he : s.err = none) :
    feedChar cfg (slashOf s) 42 = blockOf s := by
  simp [feedChar, stepChar, slashOf, blockOf, push, he, hc]

theorem feedChar_line_other (cfg : Cfg) (s : St) (he : s.err = none) (c : Nat) (h : ¬ (c = 10 ∨ c = 13)) :
    feedChar cfg (lineOf s) c = lineOf s := by
  have h' : ¬ (c = 13 ∨ c = 10) := fun e => h (e.symm)
  simp [feedChar, stepChar, lineOf, push, he, h']

theorem feedChar_line_end (cfg : Cfg) (s : St) (hs : wsState s.st = true) (he : s.err = none) (c : Nat) (h : c = 10 ∨ c = 13) :
    feedChar cfg (lineOf s) c = feedChar cfg s c := by
  have e : (lineOf s).st = .slashSlash := rfl
  have h1 : stepChar cfg (lineOf s) c = (s, false) := by
    have h' : c = 13 ∨ c = 10 := h.symm
    simp [stepChar, e, h', show popTo (lineOf s) = s from rfl]
  exact feedChar_redispatch cfg (lineOf s) s c he h1 he (stepChar_consumed_ws cfg s c hs)

theorem feed_line (cfg : Cfg) (s : St) (hs : wsState s.st = true) (he : s.err = none) :
    ∀ rest : Bytes, feed cfg (lineOf s) rest = if skipLine rest = [] then lineOf s else feed cfg s (skipLine rest)
  | [] => rfl
  | c :: cs => by
    by_cases hc : c = 10 ∨ c = 13
    · have e : skipLine (c :: cs) = c :: cs := by
        rcases hc with hc | hc <;> simp [skipLine, hc]
      rw [e, if_neg (List.cons_ne_nil c cs), feed_cons, feed_cons, feedChar_line_end cfg s hs he c hc]
    · have e : skipLine (c :: cs) = skipLine cs := by
        have h1 : c ≠ 10 := fun e => hc (Or.inl e)
        have h2 : c ≠ 13 := fun e => hc (Or.inr e)
        simp [skipLine, h1, h2]
      rw [e, feed_cons, feedChar_line_other cfg s he c hc]
      exact feed_line cfg s hs he cs

theorem feedChar_block (cfg : Cfg) (s : St) (he : s.err = none) (c : Nat) :
    feedChar cfg (blockOf s) c = if c = 13 then crOf (blockOf s) else if c = 42 then starOf s else blockOf s := by
  by_cases h13 : c = 13
  · simp [feedChar, stepChar, blockOf, crOf, push, he, h13]
  · by_cases h42 : c = 42
    · simp [feedChar, stepChar, blockOf, starOf, push, he, h42]
    · simp [feedChar, stepChar, blockOf, push, he, h13, h42]

theorem feedChar_star (cfg : Cfg) (s : St) (he : s.err = none) (c : Nat) :
    feedChar cfg (starOf s) c = if c = 47 then s else if c = 42 then starOf s else blockOf s := by
  have e : (starOf s).st = .slashStarStar := rfl
  have ee : (starOf s).err = none := by simp [starOf, push, he]
  by_cases h47 : c = 47
  · simp [feedChar, stepChar, e, ee, h47, show popTo (starOf s) = s from rfl]
  · by_cases h42 : c = 42
    · simp [feedChar, stepChar, e, ee, h42]
    · simp [feedChar, stepChar, h47, h42, starOf, blockOf, push, he]

theorem feedChar_block_cr (cfg : Cfg) (s : St) (he : s.err = none) (c : Nat) :
    feedChar cfg (crOf (blockOf s)) c = if c = 10 then blockOf s else feedChar cfg (blockOf s) c :=
  feedChar_crOf cfg (blockOf s) c he (by apply stepChar_consumed <;> simp [blockOf])

/-- where the machine, now in `t`, stands to what `skipBlock` returns: back in `s` in front of what follows the comment; in an
    unterminated comment the end of the input is not accepted -/
def BlockTo (cfg : Cfg) (s t : St) : Option Bytes → Prop
  | some r => t = feed cfg s r
  | none => ¬ Acc cfg t []

theorem feed_block (cfg : Cfg) (s : St) (he : s.err = none) : ∀ rest : Bytes,
    BlockTo cfg s (feed cfg (blockOf s) rest) (skipBlock rest) ∧
    BlockTo cfg s (feed cfg (starOf s) rest) (skipBlock (42 :: rest)) ∧
    BlockTo cfg s (feed cfg (crOf (blockOf s)) rest) (skipBlock rest)
  | [] => ⟨Acc.not_eof (by simp [feed_nil, finish1, blockOf, push, fail]), Acc.not_eof (by simp [feed_nil, finish1, starOf, push, fail]), fun h => by
      -- the end of input in `cr` first returns to the block comment, so it takes two steps of `finish` to fail
      unfold Acc at h
      simp [feed_nil, finish, finish1, crOf, blockOf, push, popTo, parent, fail, accepted, he] at h⟩
  | c :: cs => by
    obtain ⟨ihA, ihS, ihC⟩ := feed_block cfg s he cs
    have hA : BlockTo cfg s (feed cfg (blockOf s) (c :: cs)) (skipBlock (c :: cs)) := by
      rw [feed_cons, feedChar_block cfg s he c]
      by_cases h42 : c = 42
      · subst h42
        exact ihS
      · rw [skipBlock_cons_ne c cs h42, if_neg h42]
        by_cases h13 : c = 13
        · rw [if_pos h13]; exact ihC
        · rw [if_neg h13]; exact ihA
    refine ⟨hA, ?_, ?_⟩
    · rw [feed_cons, feedChar_star cfg s he c, skipBlock_cons2]
      by_cases h47 : c = 47
      · rw [if_pos h47, if_pos ⟨rfl, h47⟩]
        exact rfl
      · rw [if_neg h47, if_neg (fun e : 42 = 42 ∧ c = 47 => h47 e.2)]
        by_cases h42 : c = 42
        · rw [if_pos h42, h42]; exact ihS
        · rw [if_neg h42, skipBlock_cons_ne c cs h42]; exact ihA
    · rw [feed_cons, feedChar_block_cr cfg s he c]
      by_cases h10 : c = 10
      · rw [if_pos h10, h10, skipBlock_cons_ne 10 cs (by decide)]; exact ihA
      · rw [if_neg h10, ← feed_cons]; exact hA

/-- how the machine's outcome `f` on an input, started in the space-skipping state `s`, stands to what the reference's `ws` with
    comments returns on it: the outcome of `s` on what `ws` left, which begins with no white space; no acceptance where `ws` fails
    (unterminated block comment), leaves nothing, or stops at a `/` -/
def SkipTo (cfg : Cfg) (s f : St) : Option Bytes → Prop
  | some (c :: r) => isWs c = false ∧ f = finish (feed cfg s (c :: r)) ∧ (c = 47 → ¬ accepted f = true)
  | _ => ¬ accepted f = true

theorem feed_skipWs (cfg : Cfg) (hc : cfg.comments = true) (s : St) (hs : wsState s.st = true) (he : s.err = none) :
    ∀ (n : Nat) (a : Bytes), a.length < n → SkipTo cfg s (finish (feed cfg s a)) (skipWs true n a)
  | 0, _, hl => absurd hl (Nat.not_lt_zero _)
  | n + 1, a, hl => by
    rcases skipWs_cases n a with ⟨c, cs, rfl, hws, e⟩ | ⟨ds, rfl, e⟩ | ⟨ds, rfl, e⟩ | ⟨e, hstop⟩ <;> rw [e]
    · rw [feed_isWs cfg s hs he c cs hws]
      exact feed_skipWs cfg hc s hs he n cs (by simpa using hl)
    · rw [feed_cons, feed_cons, feedChar_ws_slash cfg s hs he, feedChar_slash_slash cfg hc s he, feed_line cfg s hs he ds]
      by_cases hne : skipLine ds = []
      · rw [if_pos hne, hne, skipWs_nil]
        exact Acc.not_eof (cfg := cfg) (s := lineOf s) (by simp [finish1, lineOf, push, fail])
      · rw [if_neg hne]
        have := (skipLine_suffix ds).length_le
        exact feed_skipWs cfg hc s hs he n (skipLine ds) (by simp only [List.length_cons] at hl; omega)
    · rw [feed_cons, feed_cons, feedChar_ws_slash cfg s hs he, feedChar_slash_star cfg hc s he]
      have hb := (feed_block cfg s he ds).1
      cases h : skipBlock ds with
      | none => rw [h] at hb; exact hb
      | some r =>
        rw [h] at hb
        have := (skipBlock_suffix ds r h).length_le
        rw [show feed cfg (blockOf s) ds = feed cfg s r from hb]
        exact feed_skipWs cfg hc s hs he n r (by simp only [List.length_cons] at hl; omega)
    · cases a with
      | nil => exact ws_not_eof cfg s hs
      | cons c r =>
        refine ⟨(hstop c r rfl).1, rfl, fun e47 => ?_⟩
        subst e47
        exact slash_dead cfg s hs r (fun d ds e => .inr ((hstop 47 r rfl).2 rfl d ds e))

theorem skipOK_true (cfg : Cfg) (hc : cfg.comments = true) : SkipOK cfg true := by
  intro s0 a w hs he h hw
  have := feed_skipWs cfg hc s0 hs he _ a (Nat.lt_succ_self _)
  rw [h] at this
  cases w with
  | nil => exact absurd rfl hw
  | cons c r => exact ⟨this.2.1, he, by simp⟩

theorem skipOK_any (cfg : Cfg) : SkipOK cfg cfg.comments := by
  cases hc : cfg.comments
  · exact skipOK_false cfg
  · exact skipOK_true cfg hc

theorem run_complete_opt (cfg : Cfg) (bs : Bytes) (v : JT) (h : parseTextPlainTail (optFlags cfg) bs = some v) :
    accepted (run cfg bs) = true ∧ er (run cfg bs).evs.reverse = eventsOf v :=
  run_complete_plain cfg (optFlags cfg) ⟨rfl, id, skipOK_any cfg⟩ bs v h

theorem skipWs_suffix : ∀ (n : Nat) (a w : Bytes), skipWs true n a = some w → ∃ p, a = p ++ w := by
  intro n a w h
  obtain ⟨p, hp⟩ := skipWs_isSuffix n a w h
  exact ⟨p, hp.symm⟩

theorem acc_skip (cfg : Cfg) (hc : cfg.comments = true) (s : St) (hs : wsState s.st = true) :
    ∀ (n : Nat) (a : Bytes), a.length < n → Acc cfg s a →
      ∃ w, skipWs true n a = some w ∧ Acc cfg s w ∧ w.length ≤ a.length ∧ (∀ c r, w = c :: r → isWs c = false ∧ c ≠ 47) := by
  intro n a hl hA
  have h := feed_skipWs cfg hc s hs hA.err_none n a hl
  cases hw : skipWs true n a with
  | none => rw [hw] at h; exact absurd hA h
  | some w =>
    rw [hw] at h
    cases w with
    | nil => exact absurd hA h
    | cons c r =>
      obtain ⟨hws, hf, h47⟩ := h
      have hA' : Acc cfg s (c :: r) := by
        unfold Acc at hA ⊢
        rwa [← hf]
      exact ⟨c :: r, rfl, hA', (skipWs_isSuffix n a _ hw).length_le,
        fun c' r' e => by cases e; exact ⟨hws, fun e47 => h47 e47 hA⟩⟩

end JsonParser
end Model
end JV
