/-
  JV.Proofs.CborParserFuel — what a run of the cbor_parser model (JV.Model.CborParser) costs: the weight of a delivered value (one per node
  plus the bytes of every string) is at most the number of bytes consumed (`weight_all`), so a successful `item` has consumed input, and
  so the fuel 2·|s|+2 that `decode` supplies never runs out (`nofuel_all`, `decode_ne_fuel`).
  Not proved here: that a result other than `Fail.fuel` is the same at every larger fuel.
-/
import JV.Proofs.CborParserEquations
namespace JV.Model.CborParser
open JV Spec.Cbor

theorem weight_all (maxD : Nat) : ∀ fuel : Nat,
    (∀ d s v r, item maxD fuel d s = .ok v r → v.weight + r.length ≤ s.length) ∧
    (∀ d n s v r, items maxD fuel d n s = .ok v r → weightList v + r.length ≤ s.length ∧ v.length = n) ∧
    (∀ d s v r, itemsIndef maxD fuel d s = .ok v r → weightList v + r.length < s.length) ∧
    (∀ d n s v r, members maxD fuel d n s = .ok v r → weightMembers v + r.length ≤ s.length ∧ v.length = n) ∧
    (∀ d s v r, membersIndef maxD fuel d s = .ok v r → weightMembers v + r.length < s.length)
  | 0 => by
    refine ⟨?_, ?_, ?_, ?_, ?_⟩
    · intro d s v r h; simp [item] at h
    · intro d n s v r h; cases n with
      | zero => simp only [items, Res.ok.injEq] at h; simp [← h.1, ← h.2, weightList]
      | succ n => simp [items] at h
    · intro d s v r h; simp [itemsIndef] at h
    · intro d n s v r h; cases n with
      | zero => simp only [members, Res.ok.injEq] at h; simp [← h.1, ← h.2, weightMembers]
      | succ n => simp [members] at h
    · intro d s v r h; simp [membersIndef] at h
  | fuel + 1 => by
    obtain ⟨hI, hL, hLI, hM, hMI⟩ := weight_all maxD fuel
    refine ⟨?_, ?_, ?_, ?_, ?_⟩
    · intro d s v r h
      rcases item_ok h with ⟨-, hw⟩ | ⟨-, s1, hs1, ⟨n, xs, rfl, hx⟩ | ⟨xs, rfl, hx⟩ | ⟨n, ms, rfl, hx⟩ | ⟨ms, rfl, hx⟩⟩
      · exact hw
      · have := hL _ _ _ _ _ hx; simp only [Item.weight]; omega
      · have := hLI _ _ _ _ hx; simp only [Item.weight]; omega
      · have := hM _ _ _ _ _ hx; simp only [Item.weight]; omega
      · have := hMI _ _ _ _ hx; simp only [Item.weight]; omega
    · intro d n s v r h
      cases n with
      | zero => simp only [items_zero, Res.ok.injEq] at h; simp [← h.1, ← h.2, weightList]
      | succ n =>
        obtain ⟨x, s1, hx, h⟩ := Res.bind_eq_ok.1 (items_succ maxD fuel d n s ▸ h)
        obtain ⟨xs, hxs, rfl⟩ := Res.map_eq_ok.1 h
        have := hI _ _ _ _ hx
        have := hL _ _ _ _ _ hxs
        simp only [weightList, List.length_cons]; omega
    · intro d s v r h
      cases s with
      | nil => simp [itemsIndef] at h
      | cons ib s =>
        rw [itemsIndef_cons] at h
        split at h
        · simp only [Res.ok.injEq] at h; simp [← h.1, ← h.2, weightList]
        · obtain ⟨x, s1, hx, h⟩ := Res.bind_eq_ok.1 h
          obtain ⟨xs, hxs, rfl⟩ := Res.map_eq_ok.1 h
          have := hI _ _ _ _ hx
          have := hLI _ _ _ _ hxs
          simp only [weightList]; omega
    · intro d n s v r h
      cases n with
      | zero => simp only [members_zero, Res.ok.injEq] at h; simp [← h.1, ← h.2, weightMembers]
      | succ n =>
        obtain ⟨k, s1, hk, h⟩ := Res.bind_eq_ok.1 (members_succ maxD fuel d n s ▸ h)
        obtain ⟨x, s2, hx, h⟩ := Res.bind_eq_ok.1 h
        obtain ⟨ms, hms, rfl⟩ := Res.map_eq_ok.1 h
        have := hI _ _ _ _ hk
        have := hI _ _ _ _ hx
        have := hM _ _ _ _ _ hms
        simp only [weightMembers, List.length_cons]; omega
    · intro d s v r h
      cases s with
      | nil => simp [membersIndef] at h
      | cons ib s =>
        rw [membersIndef_cons] at h
        split at h
        · simp only [Res.ok.injEq] at h; simp [← h.1, ← h.2, weightMembers]
        · obtain ⟨k, s1, hk, h⟩ := Res.bind_eq_ok.1 h
          obtain ⟨x, s2, hx, h⟩ := Res.bind_eq_ok.1 h
          obtain ⟨ms, hms, rfl⟩ := Res.map_eq_ok.1 h
          have := hI _ _ _ _ hk
          have := hI _ _ _ _ hx
          have := hMI _ _ _ _ hms
          simp only [weightMembers]; omega

theorem decode_weight_le {maxD : Nat} {s : Bytes} {v : Item} {r : Bytes} (h : decode maxD s = .ok v r) :
    v.weight + r.length ≤ s.length := (weight_all maxD _).1 0 s v r h

theorem consumes_all (maxD fuel : Nat) :
    (∀ d s v r, item maxD fuel d s = .ok v r → r.length < s.length) ∧
    (∀ d n s v r, items maxD fuel d n s = .ok v r → r.length ≤ s.length) ∧
    (∀ d s v r, itemsIndef maxD fuel d s = .ok v r → r.length < s.length) ∧
    (∀ d n s v r, members maxD fuel d n s = .ok v r → r.length ≤ s.length) ∧
    (∀ d s v r, membersIndef maxD fuel d s = .ok v r → r.length < s.length) := by
  obtain ⟨hI, hL, hLI, hM, hMI⟩ := weight_all maxD fuel
  refine ⟨fun d s v r h => ?_, fun d n s v r h => ?_, fun d s v r h => ?_, fun d n s v r h => ?_, fun d s v r h => ?_⟩
  · have := hI d s v r h; have := v.weight_pos; omega
  · have := hL d n s v r h; omega
  · have := hLI d s v r h; omega
  · have := hM d n s v r h; omega
  · have := hMI d s v r h; omega

theorem item_consumes {maxD fuel d : Nat} {s : Bytes} {v : Item} {r : Bytes} (h : item maxD fuel d s = .ok v r) : r.length < s.length :=
  (consumes_all maxD fuel).1 d s v r h

theorem Res.ite_err_eq_fuel {α : Type} {c : Prop} [Decidable c] {e : Err} {m : Res α} :
    (if c then .fail (.err e) else m) = .fail .fuel ↔ ¬ c ∧ m = .fail .fuel := by
  by_cases h : c <;> simp [h]

theorem readUint64_ne_fuel (s : Bytes) : readUint64 s ≠ .fail .fuel := by
  cases s with
  | nil => simp [readUint64]
  | cons ib s =>
    rw [readUint64_eq]
    split
    · simp
    · split <;> simp

theorem readChunks_ne_fuel (major : Nat) : ∀ (fuel : Nat) (s : Bytes), s.length + 1 ≤ fuel → readChunks major fuel s ≠ .fail .fuel := by
  intro fuel
  induction fuel with
  | zero => intro s h; omega
  | succ fuel ih =>
    intro s hf h
    cases s with
    | nil => simp [readChunks] at h
    | cons ib s =>
      rw [readChunks_cons] at h
      split at h
      · cases h
      · simp only [Res.ite_err_eq_fuel, Res.bind_eq_fail, Res.map_eq_fail] at h
        rcases h with ⟨-, -, h | ⟨n, s1, hn, -, -, h⟩⟩
        · exact readUint64_ne_fuel _ h
        · have := readUint64_len hn
          refine ih _ ?_ h
          simp only [List.length_cons, List.length_drop] at *
          omega

theorem readString_ne_fuel {major fuel ib : Nat} {s : Bytes} (hf : s.length + 1 ≤ fuel) : readString major fuel ib s ≠ .fail .fuel := by
  intro h
  rw [readString_eq] at h
  split at h
  · exact readChunks_ne_fuel _ _ _ hf h
  · rcases Res.bind_eq_fail.1 h with h | ⟨n, s1, -, h⟩
    · exact readUint64_ne_fuel _ h
    · split at h <;> cases h

/-- with fuel ≥ 2·|s|+1 (`item`) resp. 2·|s|+2 (the list readers) the answer is never `Fail.fuel`: an item costs one unit of fuel for
    itself and one for the list reader that holds it, and consumes at least one byte -/
theorem nofuel_all (maxD : Nat) : ∀ fuel : Nat,
    (∀ d s, 2 * s.length + 1 ≤ fuel → item maxD fuel d s ≠ .fail .fuel) ∧
    (∀ d n s, 2 * s.length + 2 ≤ fuel → items maxD fuel d n s ≠ .fail .fuel) ∧
    (∀ d s, 2 * s.length + 2 ≤ fuel → itemsIndef maxD fuel d s ≠ .fail .fuel) ∧
    (∀ d n s, 2 * s.length + 2 ≤ fuel → members maxD fuel d n s ≠ .fail .fuel) ∧
    (∀ d s, 2 * s.length + 2 ≤ fuel → membersIndef maxD fuel d s ≠ .fail .fuel)
  | 0 => by
    refine ⟨?_, ?_, ?_, ?_, ?_⟩ <;> intros <;> omega
  | fuel + 1 => by
    obtain ⟨hI, hL, hLI, hM, hMI⟩ := nofuel_all maxD fuel
    refine ⟨?_, ?_, ?_, ?_, ?_⟩
    · intro d s hf h
      cases s with
      | nil => simp [item] at h
      | cons ib s =>
        simp only [List.length_cons] at hf
        rcases (by omega : ib / 32 = 0 ∨ ib / 32 = 1 ∨ ib / 32 = 2 ∨ ib / 32 = 3 ∨ ib / 32 = 4 ∨ ib / 32 = 5 ∨ ib / 32 = 7 ∨ (ib / 32 = 6 ∨ 8 ≤ ib / 32))
          with hm | hm | hm | hm | hm | hm | hm | hm
        · exact readUint64_ne_fuel _ (Res.map_eq_fail.1 (item_uint maxD fuel d ib s hm ▸ h))
        · rcases Res.bind_eq_fail.1 (readInt64_cons ib s ▸ Res.map_eq_fail.1 (item_nint maxD fuel d ib s hm ▸ h)) with h | ⟨n, r, -, h⟩
          · exact readUint64_ne_fuel _ h
          · split at h <;> cases h
        · exact readString_ne_fuel (by omega) (Res.map_eq_fail.1 (item_bytes maxD fuel d ib s hm ▸ h))
        · rcases Res.bind_eq_fail.1 (item_text maxD fuel d ib s hm ▸ h) with h | ⟨b, r, -, h⟩
          · exact readString_ne_fuel (by omega) h
          · split at h <;> cases h
        · obtain ⟨-, h⟩ := Res.ite_err_eq_fuel.1 (item_array maxD fuel d ib s hm ▸ h)
          split at h
          · exact hLI _ _ (by omega) (Res.map_eq_fail.1 h)
          · rcases Res.bind_eq_fail.1 h with h | ⟨n, s1, hn, h⟩
            · exact readUint64_ne_fuel _ h
            · have := readUint64_len hn
              exact hL _ _ _ (by simp only [List.length_cons] at this; omega) (Res.map_eq_fail.1 h)
        · obtain ⟨-, h⟩ := Res.ite_err_eq_fuel.1 (item_map maxD fuel d ib s hm ▸ h)
          split at h
          · exact hMI _ _ (by omega) (Res.map_eq_fail.1 h)
          · rcases Res.bind_eq_fail.1 h with h | ⟨n, s1, hn, h⟩
            · exact readUint64_ne_fuel _ h
            · have := readUint64_len hn
              exact hM _ _ _ (by simp only [List.length_cons] at this; omega) (Res.map_eq_fail.1 h)
        · rcases item_simple_shape maxD fuel d ib s hm with e | ⟨mk, -, e | e⟩
          · rw [e] at h; cases h
          · rw [e] at h; cases h
          · exact readUint64_ne_fuel _ (Res.map_eq_fail.1 (e ▸ h))
        · rw [item_skip maxD fuel d ib s hm] at h
          cases h
    · intro d n s hf h
      cases n with
      | zero => simp [items_zero] at h
      | succ n =>
        rcases Res.bind_eq_fail.1 (items_succ maxD fuel d n s ▸ h) with h | ⟨x, s1, hx, h⟩
        · exact hI d s (by omega) h
        · have := item_consumes hx
          exact hL d n s1 (by omega) (Res.map_eq_fail.1 h)
    · intro d s hf h
      cases s with
      | nil => simp [itemsIndef] at h
      | cons ib s =>
        rw [itemsIndef_cons] at h
        split at h
        · cases h
        · rcases Res.bind_eq_fail.1 h with h | ⟨x, s1, hx, h⟩
          · exact hI d _ (by omega) h
          · have := item_consumes hx
            exact hLI d s1 (by omega) (Res.map_eq_fail.1 h)
    · intro d n s hf h
      cases n with
      | zero => simp [members_zero] at h
      | succ n =>
        rcases Res.bind_eq_fail.1 (members_succ maxD fuel d n s ▸ h) with h | ⟨k, s1, hk, h⟩
        · exact hI d s (by omega) h
        · have := item_consumes hk
          rcases Res.bind_eq_fail.1 h with h | ⟨x, s2, hx, h⟩
          · exact hI d s1 (by omega) h
          · have := item_consumes hx
            exact hM d n s2 (by omega) (Res.map_eq_fail.1 h)
    · intro d s hf h
      cases s with
      | nil => simp [membersIndef] at h
      | cons ib s =>
        rw [membersIndef_cons] at h
        split at h
        · cases h
        · rcases Res.bind_eq_fail.1 h with h | ⟨k, s1, hk, h⟩
          · exact hI d _ (by omega) h
          · have := item_consumes hk
            rcases Res.bind_eq_fail.1 h with h | ⟨x, s2, hx, h⟩
            · exact hI d s1 (by omega) h
            · have := item_consumes hx
              exact hMI d s2 (by omega) (Res.map_eq_fail.1 h)

theorem item_ne_fuel {maxD fuel d : Nat} {s : Bytes} (hf : 2 * s.length + 1 ≤ fuel) : item maxD fuel d s ≠ .fail .fuel :=
  (nofuel_all maxD fuel).1 d s hf

theorem decode_ne_fuel (maxD : Nat) (s : Bytes) : decode maxD s ≠ .fail .fuel :=
  item_ne_fuel (by omega)

end JV.Model.CborParser
