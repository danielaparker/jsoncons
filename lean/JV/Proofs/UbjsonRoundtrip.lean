/-
  JV.Proofs.UbjsonRoundtrip — what the UBJSON encoder model writes, the reference UBJSON decoder (JV.Spec.Ubjson,
  the one the real decoder is judged by in C07) reads back, under the documented mapping (a byte string travels as
  a typed array of uint8 and comes back as an array of integers).
-/
import JV.Model.Ubjson
import JV.Spec.BinFormats
import JV.Proofs.CborRoundtrip
namespace JV
namespace Model
namespace Ubjson
open Spec Spec.Ubjson
open Spec.Cbor (BV Res beVal f32ToF64)
open Cbor (CV beBytes narrowF32 DoubleOK beVal_beBytes)

/-- the reference decoder `Spec.Ubjson.decode` with its fuel as a parameter (not a model of jsoncons) -/
def item (fuel : Nat) (s : Bytes) : Res BV :=
  match s with
  | [] => .illformed
  | m :: r => valueOf fuel m r

theorem decode_eq_item (s : Bytes) : Spec.Ubjson.decode s = item (3 * s.length + 3) s := by
  cases s <;> rfl

theorem intOf_i (b : Nat) (rest : Bytes) : intOf 105 (b :: rest) = some (toSigned 8 b, rest) := by
  simp [intOf, takeN, beVal]
theorem intOf_U (b : Nat) (rest : Bytes) : intOf 85 (b :: rest) = some ((b : Int), rest) := by
  simp [intOf, takeN, beVal]
/-- 'I', 'l', 'L': a big-endian field of 2, 4, 8 bytes, read as a signed number -/
theorem intOf_wide (m w : Nat) (hm : m = 73 ∧ w = 2 ∨ m = 108 ∧ w = 4 ∨ m = 76 ∧ w = 8) (n : Nat) (hn : n < 256 ^ w) (rest : Bytes) :
    intOf m (beBytes w n ++ rest) = some (toSigned (8 * w) n, rest) := by
  rcases hm with ⟨rfl, rfl⟩ | ⟨rfl, rfl⟩ | ⟨rfl, rfl⟩ <;> simp [intOf, takeN_beBytes, beVal_beBytes _ n hn]

theorem valueOf_int (fuel m : Nat) (s : Bytes) (hm : m = 105 ∨ m = 85 ∨ m = 73 ∨ m = 108 ∨ m = 76) :
    valueOf (fuel + 1) m s = (match intOf m s with | none => .illformed | some (v, r) => .ok (.int v "") r) := by
  -- the generated equations of `valueOf` are split on the tail (its 'C' branch matches on it); `eq_def` is not
  rw [valueOf.eq_def]
  rcases hm with rfl | rfl | rfl | rfl | rfl <;> rfl
theorem valueOf_Z (fuel : Nat) (s : Bytes) : valueOf (fuel + 1) 90 s = .ok .null s := by
  rw [valueOf.eq_def]
  rfl
theorem valueOf_T (fuel : Nat) (s : Bytes) : valueOf (fuel + 1) 84 s = .ok (.bool true) s := by
  rw [valueOf.eq_def]
  rfl
theorem valueOf_F (fuel : Nat) (s : Bytes) : valueOf (fuel + 1) 70 s = .ok (.bool false) s := by
  rw [valueOf.eq_def]
  rfl
theorem valueOf_d (fuel : Nat) (s : Bytes) :
    valueOf (fuel + 1) 100 s = (match takeN 4 s with | none => .illformed | some (d, r) => .ok (.dbl (f32ToF64 (beVal d)) "") r) := by
  rw [valueOf.eq_def]
  rfl
theorem valueOf_D (fuel : Nat) (s : Bytes) :
    valueOf (fuel + 1) 68 s = (match takeN 8 s with | none => .illformed | some (d, r) => .ok (.dbl (beVal d) "") r) := by
  rw [valueOf.eq_def]
  rfl
theorem valueOf_S (fuel : Nat) (s : Bytes) :
    valueOf (fuel + 1) 83 s =
      (match Spec.Ubjson.length s with
       | none => .illformed
       | some (n, r) => match takeN n r with
         | none => .illformed
         | some (d, r') => if Rfc8259.validUtf8 d then .ok (.str d "") r' else .illformed) := by
  rw [valueOf.eq_def]
  rfl
theorem valueOf_arr (fuel : Nat) (s : Bytes) : valueOf (fuel + 1) 91 s = container fuel true s := by
  rw [valueOf.eq_def]
  rfl
theorem valueOf_obj (fuel : Nat) (s : Bytes) : valueOf (fuel + 1) 123 s = container fuel false s := by
  rw [valueOf.eq_def]
  rfl

theorem putLength_read (n : Nat) (h : n < 2 ^ 63) (rest : Bytes) :
    ∃ m r, putLength n = m :: r ∧ (m = 105 ∨ m = 85 ∨ m = 73 ∨ m = 108 ∨ m = 76) ∧ intOf m (r ++ rest) = some ((n : Int), rest) := by
  unfold putLength
  by_cases h1 : n ≤ 0xff
  · exact ⟨85, [n], by rw [if_pos h1], by simp, intOf_U n rest⟩
  by_cases h2 : n ≤ 0x7fff
  · refine ⟨73, _, by rw [if_neg h1, if_pos h2], by simp, ?_⟩
    rw [intOf_wide 73 2 (by simp) n (by omega), toSigned_of_lt 15 n (by omega)]
  by_cases h3 : n ≤ 0x7fffffff
  · refine ⟨108, _, by rw [if_neg h1, if_neg h2, if_pos h3], by simp, ?_⟩
    rw [intOf_wide 108 4 (by simp) n (by omega), toSigned_of_lt 31 n (by omega)]
  · refine ⟨76, _, by rw [if_neg h1, if_neg h2, if_neg h3], by simp, ?_⟩
    rw [intOf_wide 76 8 (by simp) n (by omega), toSigned_of_lt 63 n (by omega)]

theorem length_putLength (n : Nat) (h : n < 2 ^ 63) (rest : Bytes) :
    Spec.Ubjson.length (putLength n ++ rest) = some (n, rest) := by
  obtain ⟨m, r, he, _, hi⟩ := putLength_read n h rest
  simp [he, Spec.Ubjson.length, hi]

theorem item_putLength (fuel n : Nat) (h : n < 2 ^ 63) (rest : Bytes) :
    item (fuel + 1) (putLength n ++ rest) = .ok (.int n "") rest := by
  obtain ⟨m, r, he, hm, hi⟩ := putLength_read n h rest
  rw [he, List.cons_append, item, valueOf_int _ _ _ hm, hi]

theorem item_int (fuel : Nat) (i : Int) (rest : Bytes) (hlo : -(2 ^ 63 : Int) ≤ i) (hhi : i < 2 ^ 63) :
    item (fuel + 1) (writeInt i ++ rest) = .ok (.int i "") rest := by
  unfold writeInt
  by_cases hv : i ≥ 0
  · rw [if_pos hv, item_putLength fuel i.toNat (by omega) rest, Int.toNat_of_nonneg hv]
  rw [if_neg hv]
  by_cases h2 : i ≥ -128
  · simp only [if_pos h2, List.cons_append, List.nil_append, item]
    rw [valueOf_int _ _ _ (by simp), intOf_i, toSigned_neg 7 256 i (by decide) (by omega) (by omega)]
  by_cases h3 : i ≥ -32768
  · rw [if_neg h2, if_pos h3, List.cons_append, item, valueOf_int _ _ _ (by simp), intOf_wide 73 2 (by simp) _ (by omega),
      toSigned_neg 15 65536 i (by decide) (by omega) (by omega)]
  by_cases h4 : i ≥ -2147483648
  · rw [if_neg h2, if_neg h3, if_pos h4, List.cons_append, item, valueOf_int _ _ _ (by simp), intOf_wide 108 4 (by simp) _ (by omega),
      toSigned_neg 31 4294967296 i (by decide) (by omega) (by omega)]
  · rw [if_neg h2, if_neg h3, if_neg h4, List.cons_append, item, valueOf_int _ _ _ (by simp), intOf_wide 76 8 (by simp) _ (by omega),
      toSigned_neg 63 18446744073709551616 i (by decide) (by omega) (by omega)]

theorem item_double (fuel : Nat) (b : Nat) (rest : Bytes) (h : DoubleOK b) :
    item (fuel + 1) (encodeDouble b ++ rest) = .ok (.dbl b "") rest := by
  unfold encodeDouble
  cases hn : narrowF32 b with
  | none =>
    rw [List.cons_append, item, valueOf_D, takeN_beBytes]
    simp only [beVal_beBytes 8 b h.1]
  | some f =>
    obtain ⟨hf, hw⟩ := h.2 f hn
    rw [List.cons_append, item, valueOf_d, takeN_beBytes]
    simp only [beVal_beBytes 4 f hf, hw]

theorem item_text (fuel : Nat) (s rest : Bytes) (hl : s.length < 2 ^ 63) (hv : Rfc8259.validUtf8 s = true) :
    item (fuel + 1) (83 :: (putLength s.length ++ s) ++ rest) = .ok (.str s "") rest := by
  simp only [List.cons_append, List.append_assoc, item]
  rw [valueOf_S, length_putLength s.length hl]
  simp only [takeN_append rfl, hv, if_true]

theorem container_counted (fuel n : Nat) (h : n < 2 ^ 63) (isArr : Bool) (body : Bytes) :
    container (fuel + 1) isArr (35 :: (putLength n ++ body)) =
      if isArr then wrapArr (countedItems fuel n body) else wrapMap (countedMembers fuel n body) := by
  simp [container, length_putLength n h]

theorem container_typed_u8 (fuel n : Nat) (h : n < 2 ^ 63) (body : Bytes) :
    container (fuel + 1) true (36 :: 85 :: 35 :: (putLength n ++ body)) = wrapArr (typedItems fuel 85 n body) := by
  simp [container, length_putLength n h]

theorem typedItems_u8 : ∀ (b rest : Bytes) (fuel : Nat), b.length + 1 ≤ fuel →
    typedItems fuel 85 b.length (b ++ rest) = .ok (List.map (fun x : Nat => BV.int (x : Int) "") b) rest
  | [], rest, fuel, _ => by cases fuel <;> simp [typedItems]
  | x :: b, rest, fuel, hf => by
    obtain ⟨g, rfl⟩ : ∃ g, fuel = g + 2 := ⟨fuel - 2, by simp at hf; omega⟩
    have ih := typedItems_u8 b rest (g + 1) (by simp at hf; omega)
    have hx : valueOf (g + 1) 85 (x :: (b ++ rest)) = .ok (.int (x : Int) "") (b ++ rest) := by
      rw [valueOf_int _ _ _ (by simp), intOf_U]
    simp only [List.length_cons, List.cons_append, typedItems, hx, ih, List.map]

theorem item_ok_cons {fuel : Nat} {s rest : Bytes} {v : BV} (h : item fuel s = .ok v rest) :
    ∃ m r, s = m :: r ∧ isNoop m = false ∧ valueOf fuel m r = .ok v rest := by
  cases s with
  | nil => cases h
  | cons m r =>
    refine ⟨m, r, rfl, ?_, h⟩
    cases hm : isNoop m
    · rfl
    · have e : m = 78 := by simpa [isNoop] using hm
      subst e
      cases fuel <;> cases r <;> simp [item, valueOf] at h

mutual
  /-- what decode(encode(v)) is documented to be: everything itself, except that a byte string comes back as an array of its bytes -/
  def toBVu : CV → BV
    | .null => .null
    | .bool b => .bool b
    | .int i => .int i ""
    | .dbl b => .dbl b ""
    | .str s => .str s ""
    | .bytes b => .arr (List.map (fun x : Nat => BV.int (x : Int) "") b)
    | .arr xs => .arr (toBVuList xs)
    | .map ms => .map (toBVuMembers ms)
  def toBVuList : List CV → List BV
    | [] => []
    | x :: xs => toBVu x :: toBVuList xs
  def toBVuMembers : List (Bytes × CV) → List (Bytes × BV)
    | [] => []
    | (k, x) :: ms => (k, toBVu x) :: toBVuMembers ms
end

mutual
  /-- integers in [-2^63, 2^63) (UBJSON has no uint64), doubles on which the float32 shortcut is lossless, valid UTF-8 text,
      every length below 2^63 (a length is a signed 64-bit integer item at most) -/
  def OKu : CV → Prop
    | .int i => -(2 ^ 63 : Int) ≤ i ∧ i < 2 ^ 63
    | .dbl b => DoubleOK b
    | .str s => s.length < 2 ^ 63 ∧ Spec.Rfc8259.validUtf8 s = true
    | .bytes b => b.length < 2 ^ 63
    | .arr xs => xs.length < 2 ^ 63 ∧ OKuList xs
    | .map ms => ms.length < 2 ^ 63 ∧ OKuMembers ms
    | _ => True
  def OKuList : List CV → Prop
    | [] => True
    | x :: xs => OKu x ∧ OKuList xs
  def OKuMembers : List (Bytes × CV) → Prop
    | [] => True
    | (k, x) :: ms => (k.length < 2 ^ 63 ∧ Spec.Rfc8259.validUtf8 k = true) ∧ OKu x ∧ OKuMembers ms
end

mutual
  def needU : CV → Nat
    | .bytes b => b.length + 3
    | .arr xs => 2 + needUList xs
    | .map ms => 2 + needUMembers ms
    | _ => 1
  def needUList : List CV → Nat
    | [] => 0
    | x :: xs => 1 + max (needU x) (needUList xs)
  def needUMembers : List (Bytes × CV) → Nat
    | [] => 0
    | (_, x) :: ms => 1 + max (needU x) (needUMembers ms)
end

mutual
  theorem enc_dec : ∀ (v : CV) (rest : Bytes) (fuel : Nat), OKu v → needU v ≤ fuel →
      item fuel (encode v ++ rest) = .ok (toBVu v) rest
    | v, _, 0, _, hf => by cases v <;> simp [needU] at hf
    | .null, rest, f + 1, _, _ => by simp [encode, item, valueOf_Z, toBVu]
    | .bool b, rest, f + 1, _, _ => by cases b <;> simp [encode, item, valueOf_T, valueOf_F, toBVu]
    | .int i, rest, f + 1, h, _ => item_int f i rest h.1 h.2
    | .dbl b, rest, f + 1, h, _ => item_double f b rest h
    | .str s, rest, f + 1, h, _ => item_text f s rest h.1 h.2
    | .bytes b, rest, fuel + 1, h, hf => by
      have hf : b.length + 3 ≤ fuel + 1 := hf
      obtain ⟨f, rfl⟩ : ∃ f, fuel = f + 1 := ⟨fuel - 1, by omega⟩
      simp only [encode, List.cons_append, List.append_assoc, item]
      rw [valueOf_arr, container_typed_u8 f b.length h, typedItems_u8 b rest f (by omega)]
      rfl
    | .arr xs, rest, fuel + 1, h, hf => by
      have hf : 2 + needUList xs ≤ fuel + 1 := hf
      obtain ⟨f, rfl⟩ : ∃ f, fuel = f + 1 := ⟨fuel - 1, by omega⟩
      simp only [encode, List.cons_append, List.append_assoc, item]
      rw [valueOf_arr, container_counted f xs.length h.1, encList_dec xs rest f h.2 (by omega)]
      rfl
    | .map ms, rest, fuel + 1, h, hf => by
      have hf : 2 + needUMembers ms ≤ fuel + 1 := hf
      obtain ⟨f, rfl⟩ : ∃ f, fuel = f + 1 := ⟨fuel - 1, by omega⟩
      simp only [encode, List.cons_append, List.append_assoc, item]
      rw [valueOf_obj, container_counted f ms.length h.1, encMembers_dec ms rest f h.2 (by omega)]
      rfl
  theorem encList_dec : ∀ (xs : List CV) (rest : Bytes) (fuel : Nat), OKuList xs → needUList xs ≤ fuel →
      countedItems fuel xs.length (encodeList xs ++ rest) = .ok (toBVuList xs) rest
    | [], rest, fuel, _, _ => by cases fuel <;> simp [countedItems, encodeList, toBVuList]
    | x :: xs, rest, 0, _, hf => absurd hf (by simp [needUList])
    | x :: xs, rest, f + 1, h, hf => by
      have hf : 1 + max (needU x) (needUList xs) ≤ f + 1 := hf
      have i1 := enc_dec x (encodeList xs ++ rest) f h.1 (by omega)
      have i2 := encList_dec xs rest f h.2 (by omega)
      obtain ⟨m, r, he, hm, i1⟩ := item_ok_cons i1
      simp only [encodeList, List.length_cons, List.append_assoc, he, countedItems, hm, i1, i2, toBVuList]
      simp
  theorem encMembers_dec : ∀ (ms : List (Bytes × CV)) (rest : Bytes) (fuel : Nat), OKuMembers ms → needUMembers ms ≤ fuel →
      countedMembers fuel ms.length (encodeMembers ms ++ rest) = .ok (toBVuMembers ms) rest
    | [], rest, fuel, _, _ => by cases fuel <;> simp [countedMembers, encodeMembers, toBVuMembers]
    | (k, x) :: ms, rest, 0, _, hf => absurd hf (by simp [needUMembers])
    | (k, x) :: ms, rest, f + 1, h, hf => by
      have hf : 1 + max (needU x) (needUMembers ms) ≤ f + 1 := hf
      have i1 := enc_dec x (encodeMembers ms ++ rest) f h.2.1 (by omega)
      have i2 := encMembers_dec ms rest f h.2.2 (by omega)
      obtain ⟨m, r, he, _, i1⟩ := item_ok_cons i1
      simp only [encodeMembers, List.length_cons, List.append_assoc, countedMembers, length_putLength k.length h.1.1,
        takeN_append rfl, h.1.2, he, i1, i2, toBVuMembers]
      simp
end

end Ubjson
end Model
end JV
