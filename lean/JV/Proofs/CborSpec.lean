/-
  JV.Proofs.CborSpec — the RFC 8949 reference decoder (JV.Spec.Cbor) in equations: the argument reader `readArg` by the form of the
  additional information, and `item` without a tag by major type. The encoder round trip (JV.Proofs.CborRoundtrip) and the refinement of
  the cbor_parser model (JV.Proofs.CborParser) both read the reference through these.
-/
import JV.Spec.Cbor
import JV.Proofs.Bytes
namespace JV.Spec.Cbor
open Model.Cbor (beBytes length_beBytes beVal_beBytes)

def Res.map {α β : Type} (f : α → β) : Res α → Res β
  | .ok v r => .ok (f v) r
  | .illformed => .illformed
  | .unjudged => .unjudged

/-- a list element read by `r`, then the remaining elements read by `k` from the bytes `r` left -/
def Res.thenCons {α : Type} (r : Res α) (k : Bytes → Res (List α)) : Res (List α) :=
  match r with
  | .ok x s1 => (k s1).map (x :: ·)
  | .illformed => .illformed
  | .unjudged => .unjudged

/-- a member: the key must be a text string (any other key is well-formed, but its rendering is not judged), then the value, then the
    remaining members -/
def Res.thenMember (rk : Res BV) (kv : Bytes → Res BV) (kms : Bytes → Res (List (Bytes × BV))) : Res (List (Bytes × BV)) :=
  match rk with
  | .ok (.str k _) s1 =>
    (match kv s1 with
     | .ok v s2 => (kms s2).map ((k, v) :: ·)
     | .illformed => .illformed
     | .unjudged => .unjudged)
  | .ok _ _ => .unjudged
  | .illformed => .illformed
  | .unjudged => .unjudged

theorem readArg_wide {ai w : Nat} (h : (ai = 24 ∧ w = 1) ∨ (ai = 25 ∧ w = 2) ∨ (ai = 26 ∧ w = 4) ∨ (ai = 27 ∧ w = 8)) (s : Bytes) :
    readArg ai s = if s.length < w then none else some (beVal (s.take w), s.drop w) := by
  rcases h with ⟨rfl, rfl⟩ | ⟨rfl, rfl⟩ | ⟨rfl, rfl⟩ | ⟨rfl, rfl⟩ <;> simp [readArg]

theorem readArg_field {ai : Nat} (h24 : 24 ≤ ai) (h28 : ai < 28) (s : Bytes) :
    readArg ai s = if s.length < 2 ^ (ai - 24) then none else some (beVal (s.take (2 ^ (ai - 24))), s.drop (2 ^ (ai - 24))) := by
  refine readArg_wide ?_ s
  rcases (by omega : ai = 24 ∨ ai = 25 ∨ ai = 26 ∨ ai = 27) with e | e | e | e <;> simp [e]

theorem readArg_beBytes (j n : Nat) (hj : j < 4) (hn : n < 256 ^ 2 ^ j) (rest : Bytes) :
    readArg (24 + j) (beBytes (2 ^ j) n ++ rest) = some (n, rest) := by
  rw [readArg_field (by omega) (by omega), Nat.add_sub_cancel_left, if_neg (by simp [length_beBytes]),
    List.take_left' (length_beBytes _ _), List.drop_left' (length_beBytes _ _), beVal_beBytes _ n hn]

theorem readArg_reserved (ai : Nat) (h : 28 ≤ ai) (s : Bytes) : readArg ai s = none := by
  have h1 : ¬ ai < 24 := by omega
  have : ai ≠ 24 ∧ ai ≠ 25 ∧ ai ≠ 26 ∧ ai ≠ 27 := by omega
  simp [readArg, h1, this]

theorem readArg_nil {ai : Nat} (h : 24 ≤ ai) : readArg ai [] = none := by
  by_cases h28 : 28 ≤ ai
  · exact readArg_reserved ai h28 []
  · rw [readArg_field h (by omega)]
    exact if_pos (Nat.two_pow_pos _)

theorem readArg_len {ai : Nat} {s : Bytes} {n : Nat} {r : Bytes} (h : readArg ai s = some (n, r)) : r.length ≤ s.length := by
  by_cases h0 : ai < 24
  · simp only [readArg, h0, if_true, Option.some.injEq, Prod.mk.injEq] at h
    rw [← h.2]; exact Nat.le_refl _
  · by_cases h28 : 28 ≤ ai
    · simp [readArg_reserved ai h28] at h
    · rw [readArg_field (by omega) (by omega)] at h
      split at h
      · cases h
      · simp only [Option.some.injEq, Prod.mk.injEq] at h
        rw [← h.2]; simp

section spec
variable (fuel ib : Nat) (s : Bytes)
-- not needed for the proofs to go through: it makes Lean generate the equation lemmas of `item` here, once; otherwise every proof
-- below, elaborated on its own, generates them again for its `simp only [item, …]`, which is slow to check
attribute [local simp] item

theorem spec_reserved (tag : Option Nat) (hm : ib / 32 ≠ 7) (h : 28 ≤ ib % 32 ∧ ib % 32 ≤ 30) :
    item (fuel + 1) tag (ib :: s) = .illformed := by
  simp only [item, hm, h, if_false, if_true, ge_iff_le, and_self]

theorem spec_indef_other (hm : ib / 32 < 2 ∨ ib / 32 = 6 ∨ 8 ≤ ib / 32) (h : ib % 32 = 31) :
    item (fuel + 1) none (ib :: s) = .illformed := by
  have e : ¬ ib / 32 = 7 ∧ ¬ ib / 32 = 2 ∧ ¬ ib / 32 = 3 ∧ ¬ ib / 32 = 4 ∧ ¬ ib / 32 = 5 := by omega
  simp only [item, e, h, Nat.reduceLeDiff, Nat.reduceEqDiff, and_false, or_self, if_false, if_true]

theorem spec_indef_bytes (hm : ib / 32 = 2) (h : ib % 32 = 31) :
    item (fuel + 1) none (ib :: s) = (readChunks 2 fuel s).map (BV.bytes · "") := by
  simp only [item, hm, h, Nat.reduceLeDiff, Nat.reduceEqDiff, reduceCtorEq, and_false, true_or, or_self, if_false, if_true,
    Option.bind_none, Option.getD_none]
  cases readChunks 2 fuel s <;> rfl

theorem spec_indef_text (hm : ib / 32 = 3) (h : ib % 32 = 31) :
    item (fuel + 1) none (ib :: s) =
      match readChunks 3 fuel s with
      | .ok b rest => if Spec.Rfc8259.validUtf8 b then .ok (.str b "") rest else .illformed
      | .illformed => .illformed
      | .unjudged => .unjudged := by
  simp only [item, hm, h, Nat.reduceLeDiff, Nat.reduceEqDiff, and_false, or_true, if_false, if_true,
    Option.bind_none, Option.getD_none]
  cases readChunks 3 fuel s <;> rfl

theorem spec_indef_array (hm : ib / 32 = 4) (h : ib % 32 = 31) :
    item (fuel + 1) none (ib :: s) = (itemsIndef fuel s).map .arr := by
  simp only [item, hm, h, Nat.reduceLeDiff, Nat.reduceEqDiff, and_false, or_self, if_false, if_true]
  cases itemsIndef fuel s <;> rfl

theorem spec_indef_map (hm : ib / 32 = 5) (h : ib % 32 = 31) :
    item (fuel + 1) none (ib :: s) = (membersIndef fuel s).map .map := by
  simp only [item, hm, h, Nat.reduceLeDiff, Nat.reduceEqDiff, and_false, or_self, if_false, if_true]
  cases membersIndef fuel s <;> rfl

theorem arg_form (h : ib % 32 < 28) : ¬ (ib % 32 ≥ 28 ∧ ib % 32 ≤ 30) ∧ ¬ ib % 32 = 31 := by omega

theorem spec_no_arg (tag : Option Nat) (hm : ib / 32 ≠ 7) (h : ib % 32 < 28) (hr : readArg (ib % 32) s = none) :
    item (fuel + 1) tag (ib :: s) = .illformed := by
  simp only [item, hm, arg_form ib h, hr, if_false]

variable {n : Nat} {s1 : Bytes} (h : ib % 32 < 28) (hr : readArg (ib % 32) s = some (n, s1))
include h hr

theorem spec_uint (hm : ib / 32 = 0) : item (fuel + 1) none (ib :: s) = .ok (.int n "") s1 := by
  simp only [item, hm, arg_form ib h, hr, reduceCtorEq, if_false, if_true]

theorem spec_nint (hm : ib / 32 = 1) : item (fuel + 1) none (ib :: s) = .ok (.int (-1 - (n : Int)) "") s1 := by
  simp only [item, hm, arg_form ib h, hr, Nat.reduceEqDiff, reduceCtorEq, if_false, if_true, ite_self]

theorem spec_bytes (hm : ib / 32 = 2) : item (fuel + 1) none (ib :: s) =
    if s1.length < n then .illformed else .ok (.bytes (s1.take n) "") (s1.drop n) := by
  simp only [item, hm, arg_form ib h, hr, Nat.reduceEqDiff, reduceCtorEq, if_false, if_true, Option.bind_none, Option.getD_none]

theorem spec_text (hm : ib / 32 = 3) : item (fuel + 1) none (ib :: s) =
    if s1.length < n then .illformed
    else if Spec.Rfc8259.validUtf8 (s1.take n) then .ok (.str (s1.take n) "") (s1.drop n) else .illformed := by
  simp only [item, hm, arg_form ib h, hr, Nat.reduceEqDiff, if_false, if_true, Option.bind_none, Option.getD_none]

theorem spec_array (hm : ib / 32 = 4) : item (fuel + 1) none (ib :: s) = (items fuel n s1).map .arr := by
  simp only [item, hm, arg_form ib h, hr, Nat.reduceEqDiff, if_false, if_true]
  cases items fuel n s1 <;> rfl

theorem spec_map (hm : ib / 32 = 5) : item (fuel + 1) none (ib :: s) = (members fuel n s1).map .map := by
  simp only [item, hm, arg_form ib h, hr, Nat.reduceEqDiff, if_false, if_true]
  cases members fuel n s1 <;> rfl

end spec

theorem spec_items_succ (fuel n : Nat) (s : Bytes) : items (fuel + 1) (n + 1) s = (item fuel none s).thenCons (items fuel n) := by
  simp only [items]
  cases item fuel none s with
  | ok x s1 => cases h : items fuel n s1 <;> simp [Res.thenCons, Res.map, h]
  | illformed => rfl
  | unjudged => rfl

theorem spec_itemsIndef_cons (fuel ib : Nat) (s : Bytes) :
    itemsIndef (fuel + 1) (ib :: s) = if ib = 0xFF then .ok [] s else (item fuel none (ib :: s)).thenCons (itemsIndef fuel) := by
  simp only [itemsIndef]
  split
  · rfl
  · cases item fuel none (ib :: s) with
    | ok x s1 => cases h : itemsIndef fuel s1 <;> simp [Res.thenCons, Res.map, h]
    | illformed => rfl
    | unjudged => rfl

theorem spec_members_succ (fuel n : Nat) (s : Bytes) :
    members (fuel + 1) (n + 1) s = (item fuel none s).thenMember (item fuel none) (members fuel n) := by
  simp only [members]
  cases item fuel none s with
  | ok k s1 =>
    cases k <;> try rfl
    cases hv : item fuel none s1 with
    | ok v s2 => cases h : members fuel n s2 <;> simp [Res.thenMember, Res.map, hv, h]
    | illformed => simp [Res.thenMember, hv]
    | unjudged => simp [Res.thenMember, hv]
  | illformed => rfl
  | unjudged => rfl

theorem spec_membersIndef_cons (fuel ib : Nat) (s : Bytes) :
    membersIndef (fuel + 1) (ib :: s) =
      if ib = 0xFF then .ok [] s else (item fuel none (ib :: s)).thenMember (item fuel none) (membersIndef fuel) := by
  simp only [membersIndef]
  split
  · rfl
  · cases item fuel none (ib :: s) with
    | ok k s1 =>
      cases k <;> try rfl
      cases hv : item fuel none s1 with
      | ok v s2 => cases h : membersIndef fuel s2 <;> simp [Res.thenMember, Res.map, hv, h]
      | illformed => simp [Res.thenMember, hv]
      | unjudged => simp [Res.thenMember, hv]
    | illformed => rfl
    | unjudged => rfl

end JV.Spec.Cbor
