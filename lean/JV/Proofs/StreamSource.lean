/-
  JV.Proofs.StreamSource — the invariant of `stream_source` and what a refill does under it; the theorems about `read`, `peek`,
  `read_chunk` and `eof` in Props.C03 rest on these.
-/
import JV.Model.StreamSource
namespace JV
namespace Model
namespace StreamSource

def Inv (s : St) : Prop := (s.eofbit = true → s.rest = []) ∧ 0 < s.k

theorem inv_init (content : Bytes) (k : Nat) (hk : 0 < k) : Inv (init content k) := by
  simp [Inv, init, hk]

theorem drop_take_append_drop {α : Type} (l : List α) {m k : Nat} (h : m ≤ k) :
    (l.take k).drop m ++ l.drop k = l.drop m := by
  have e : l.drop k = (l.drop m).drop (k - m) := by rw [List.drop_drop]; congr 1; omega
  rw [List.drop_take, e, List.take_append_drop]

/-- under the invariant a refill always takes the next `k` bytes of the stream: once the eof bit is set nothing is left to take -/
theorem fill_eq (s : St) (hi : Inv s) :
    fill s = { s with rest := s.rest.drop s.k, buf := s.rest.take s.k,
                      eofbit := s.eofbit || decide ((s.rest.take s.k).length < s.k) } := by
  by_cases he : s.eofbit = true
  · simp [fill, he, hi.1 he]
  · simp [fill, he]

theorem inv_fill (s : St) (hi : Inv s) : Inv (fill s) := by
  rw [fill_eq s hi]
  refine ⟨fun h => ?_, hi.2⟩
  show s.rest.drop s.k = []
  rcases Bool.or_eq_true_iff.1 h with he | hlt
  · simp [hi.1 he]
  · rw [decide_eq_true_eq, List.length_take] at hlt
    exact List.drop_of_length_le (by omega)

theorem fill_pending (s : St) (hb : s.buf = []) (hi : Inv s) : pending (fill s) = pending s ∧ Inv (fill s) := by
  refine ⟨?_, inv_fill s hi⟩
  rw [fill_eq s hi]
  simp [pending, hb]

theorem rest_nil_of_fill_buf_nil (s : St) (hi : Inv s) (h : (fill s).buf = []) : s.rest = [] := by
  rw [fill_eq s hi] at h
  have hk := hi.2
  rcases List.take_eq_nil_iff.1 h with h0 | hr
  · omega
  · exact hr

end StreamSource
end Model
end JV
