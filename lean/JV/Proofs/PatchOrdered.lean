/-
  JV.Proofs.PatchOrdered — atomicity of `apply_patch` on insertion-ordered objects (`ojson`), up to member order.

  `norm` sorts the members of every object of a value; two values are equal as JSON values iff their `norm`s
  are equal.  Under the unique-keys invariant of `basic_json` (`JsonPath.UK`) the insertion-ordered flavour of
  `Pointer.apply` on `d` is simulated by the sorted flavour on `norm d` (`apply_sim`): same error, and the
  results agree up to `norm`.  So "remove ↦ add of the removed value" restores the document up to member
  order (`remInv_ordered`), unwinding respects that relation (`unwind_congr`), and `applyLoop_atomic` applies.
-/
import JV.Proofs.PatchUndo
namespace JV
namespace Model
namespace Pointer
open Assoc JsonPath

def sortMembers : List (Bytes × JVal) → List (Bytes × JVal)
  | [] => []
  | (k, v) :: ms => insertSorted k v (sortMembers ms)

theorem find_sortMembers (k : Bytes) : ∀ ms : List (Bytes × JVal), (keys ms).Nodup → find k (sortMembers ms) = find k ms
  | [], _ => rfl
  | (k', v) :: ms, hn => by
    have hn' := nodup_cons_iff.1 hn
    simp only [sortMembers, find]
    by_cases e : k' = k
    · subst e; simp [find_insertSorted_self]
    · rw [find_insertSorted_ne (fun h => e h.symm), find_sortMembers k ms hn'.2]; simp [e]

theorem sorted_sortMembers : ∀ ms : List (Bytes × JVal), (keys ms).Nodup → Sorted (sortMembers ms)
  | [], _ => trivial
  | (k', v) :: ms, hn => by
    have hn' := nodup_cons_iff.1 hn
    exact sorted_insertSorted (sorted_sortMembers ms hn'.2) (by rw [find_sortMembers k' ms hn'.2]; exact hn'.1)

mutual
  def norm : JVal → JVal
    | .arr xs => .arr (normList xs)
    | .obj ms => .obj (sortMembers (normMembers ms))
    | .null => .null
    | .bool b => .bool b
    | .int i => .int i
    | .str s => .str s
  def normList : List JVal → List JVal
    | [] => []
    | x :: xs => norm x :: normList xs
  def normMembers : List (Bytes × JVal) → List (Bytes × JVal)
    | [] => []
    | (k, x) :: ms => (k, norm x) :: normMembers ms
end

theorem normList_eq_map : ∀ xs : List JVal, normList xs = xs.map norm
  | [] => rfl
  | x :: xs => by simp [normList, normList_eq_map xs]

theorem keys_normMembers : ∀ ms : List (Bytes × JVal), keys (normMembers ms) = keys ms
  | [] => rfl
  | (k, x) :: ms => by
    have := keys_normMembers ms
    simp only [keys] at this ⊢
    simp [normMembers, this]

theorem find_normMembers (k : Bytes) : ∀ ms : List (Bytes × JVal), find k (normMembers ms) = (find k ms).map norm
  | [] => rfl
  | (k', x) :: ms => by
    by_cases e : k' = k
    · simp [normMembers, find, e]
    · simp [normMembers, find, e, find_normMembers k ms]

def sortedNorm (ms : List (Bytes × JVal)) : List (Bytes × JVal) := sortMembers (normMembers ms)

theorem norm_obj (ms : List (Bytes × JVal)) : norm (.obj ms) = .obj (sortedNorm ms) := by simp [norm, sortedNorm]
theorem norm_arr (xs : List JVal) : norm (.arr xs) = .arr (xs.map norm) := by simp [norm, normList_eq_map]

theorem find_sortedNorm (k : Bytes) {ms : List (Bytes × JVal)} (hn : (keys ms).Nodup) : find k (sortedNorm ms) = (find k ms).map norm := by
  unfold sortedNorm
  rw [find_sortMembers k _ (by rw [keys_normMembers]; exact hn), find_normMembers]

theorem sorted_sortedNorm {ms : List (Bytes × JVal)} (hn : (keys ms).Nodup) : Sorted (sortedNorm ms) :=
  sorted_sortMembers _ (by rw [keys_normMembers]; exact hn)

theorem sortedNorm_ext {ms b : List (Bytes × JVal)} (hn : (keys ms).Nodup) (hb : Sorted b)
    (h : ∀ k, find k b = (find k ms).map norm) : sortedNorm ms = b :=
  sorted_ext (sorted_sortedNorm hn) hb (fun k => by rw [find_sortedNorm k hn, h k])

theorem sortedNorm_replaceVal {k : Bytes} {x y : JVal} {ms : List (Bytes × JVal)} (hn : (keys ms).Nodup) (hf : find k ms = some y) :
    sortedNorm (replaceVal k x ms) = replaceVal k (norm x) (sortedNorm ms) := by
  apply sortedNorm_ext (nodup_replaceVal hn) (sorted_replaceVal (sorted_sortedNorm hn))
  intro k'
  have hfN : find k (sortedNorm ms) = some (norm y) := by rw [find_sortedNorm k hn, hf]; rfl
  by_cases e : k' = k
  · subst e
    rw [find_replaceVal_self hfN, find_replaceVal_self hf]; rfl
  · rw [find_replaceVal_ne e, find_replaceVal_ne e, find_sortedNorm k' hn]

theorem sortedNorm_erase {k : Bytes} {ms : List (Bytes × JVal)} (hn : (keys ms).Nodup) :
    sortedNorm (erase k ms) = erase k (sortedNorm ms) := by
  apply sortedNorm_ext (nodup_erase hn) (sorted_erase (sorted_sortedNorm hn))
  intro k'
  by_cases e : k' = k
  · subst e
    rw [find_erase_self (sorted_sortedNorm hn), find_erase_self_nodup hn]; rfl
  · rw [find_erase_ne e, find_erase_ne e, find_sortedNorm k' hn]

theorem sortedNorm_append {k : Bytes} {v : JVal} {ms : List (Bytes × JVal)} (hn : (keys ms).Nodup) (hf : find k ms = none) :
    sortedNorm (ms ++ [(k, v)]) = insertSorted k (norm v) (sortedNorm ms) := by
  have hfN : find k (sortedNorm ms) = none := by rw [find_sortedNorm k hn, hf]; rfl
  apply sortedNorm_ext (nodup_append_one hn hf) (sorted_insertSorted (sorted_sortedNorm hn) hfN)
  intro k'
  rw [find_append_one]
  by_cases e : k' = k
  · subst e
    rw [find_insertSorted_self, hf]; simp
  · rw [find_insertSorted_ne e, find_sortedNorm k' hn]
    cases find k' ms with
    | some x => rfl
    | none =>
      simp
      exact fun h => e h.symm

theorem sortedNorm_insertOrAssign {k : Bytes} {v : JVal} {ms : List (Bytes × JVal)} (hn : (keys ms).Nodup) :
    sortedNorm (insertOrAssign true k v ms) = insertOrAssign false k (norm v) (sortedNorm ms) := by
  unfold insertOrAssign
  rw [find_sortedNorm k hn]
  cases hf : find k ms with
  | some x => simpa using sortedNorm_replaceVal hn hf
  | none => simpa using sortedNorm_append hn hf

theorem uk_iff (d : JVal) : UK d ↔ Level UK (fun ms => (keys ms).Nodup) d := by
  cases d with
  | arr xs => simp only [UK, Level, ukList_iff]
  | obj ms => simp only [UK, Level, ukMembers_iff]
  | _ => simp [UK, Level]

theorem nodup_keysInv : KeysInv true (fun ms : List (Bytes × JVal) => (keys ms).Nodup) where
  replaceVal := fun _ _ hn => nodup_replaceVal hn
  insertOrAssign := by
    intro ms k v hn
    unfold insertOrAssign
    cases hk : find k ms with
    | some y => exact nodup_replaceVal hn
    | none => exact nodup_append_one hn hk
  erase := fun _ hn => nodup_erase hn

theorem uk_docInv : DocInv true UK := .of_level uk_iff nodup_keysInv

def normF : Final → Final
  | .add v => .add (norm v)
  | .addIfAbsent v => .addIfAbsent (norm v)
  | .replace v => .replace (norm v)
  | .remove => .remove

theorem isAdd_normF (f : Final) : (normF f).isAdd = f.isAdd := by cases f <;> rfl

theorem map_onList (f : Final) (i : Nat) (xs : List JVal) :
    (f.onList i xs).map norm = (normF f).onList i (xs.map norm) := by
  cases f with
  | add v | addIfAbsent v => simp [Final.onList, normF, insertAt, List.map_take, List.map_drop]
  | replace v => simp [Final.onList, normF, List.map_set]
  | remove => simp [Final.onList, normF, map_eraseIdx]

theorem memberErr_normF (create present : Bool) (f : Final) : (normF f).memberErr create present = f.memberErr create present := by
  cases f <;> rfl

theorem sortedNorm_onMembers (f : Final) (k : Bytes) {ms : List (Bytes × JVal)} (hn : (keys ms).Nodup) :
    sortedNorm (f.onMembers true k ms) = (normF f).onMembers false k (sortedNorm ms) := by
  cases f with
  | add v | addIfAbsent v | replace v => exact sortedNorm_insertOrAssign hn
  | remove => exact sortedNorm_erase hn

/-- on an array `norm` maps the elements and the position is the same; on an object the member primitives
    commute with `norm` under unique keys (`sortedNorm_onMembers`), and `find` sees the same keys
    (`find_sortedNorm`) -/
theorem finalStep_sim (f : Final) (c : JVal) (last : Bytes) (hu : UK c) :
    (finalStep true false f c last).1 = (finalStep false false (normF f) (norm c) last).1 ∧
    norm (finalStep true false f c last).2 = (finalStep false false (normF f) (norm c) last).2 := by
  cases c with
  | arr xs =>
    rw [norm_arr, finalStep_arr, finalStep_arr, List.length_map, isAdd_normF]
    cases slot f.isAdd xs.length last with
    | error e => exact ⟨rfl, norm_arr xs⟩
    | ok i => exact ⟨rfl, (norm_arr _).trans (congrArg JVal.arr (map_onList f i xs))⟩
  | obj ms =>
    have hn : (keys ms).Nodup := ((uk_iff _).1 hu).1
    rw [norm_obj, finalStep_obj, finalStep_obj, find_sortedNorm last hn, Option.isSome_map, memberErr_normF]
    cases f.memberErr false (find last ms).isSome with
    | some e => exact ⟨rfl, norm_obj ms⟩
    | none => exact ⟨rfl, (norm_obj _).trans (congrArg JVal.obj (sortedNorm_onMembers f last hn))⟩
  | null | bool _ | int _ | str _ => simp [finalStep, norm]

theorem child_norm {d : JVal} (hu : UK d) (tok : Bytes) : child (norm d) tok = (child d tok).map norm := by
  cases d with
  | arr xs =>
    rw [norm_arr]
    simp only [child, List.getElem?_map]
    cases isDash tok with
    | true => rfl
    | false =>
      simp only [Bool.false_eq_true, if_false]
      cases decToIndex tok with
      | none => rfl
      | some i => simp only []; cases xs[i]? <;> rfl
  | obj ms =>
    have hn : (keys ms).Nodup := ((uk_iff _).1 hu).1
    rw [norm_obj]
    simp only [child, find_sortedNorm tok hn]
    cases find tok ms <;> rfl
  | null | bool _ | int _ | str _ => simp [norm, child, Except.map]

theorem setChild_norm {d : JVal} {tok : Bytes} {c : JVal} (hu : UK d) (hc : child d tok = .ok c) (x : JVal) :
    norm (setChild d tok x) = setChild (norm d) tok (norm x) := by
  rcases child_ok hc with ⟨xs, i, rfl, _, hi, _⟩ | ⟨ms, rfl, hf⟩
  · simp [setChild, hi, norm_arr, List.map_set]
  · have hn : (keys ms).Nodup := ((uk_iff _).1 hu).1
    simp [setChild, norm_obj, sortedNorm_replaceVal hn hf]

theorem get_sim : ∀ (p : List Bytes) {t : JVal}, UK t → get (norm t) p = (get t p).map norm
  | [], t, _ => by simp [get_nil, Except.map]
  | tok :: rest, t, hu => by
    rw [get_cons, get_cons, child_norm hu]
    cases hc : child t tok with
    | error e => rfl
    | ok c => exact get_sim rest (uk_docInv.child hu hc)

theorem put_norm : ∀ (loc : List Bytes) {t : JVal} (x : JVal), UK t → norm (put t loc x) = put (norm t) loc (norm x)
  | [], t, x, _ => by rw [put_nil, put_nil]
  | tok :: rest, t, x, hu => by
    cases hc : child t tok with
    | error e => rw [put_cons_err hc, put_cons_err (e := e) (by rw [child_norm hu, hc]; rfl)]
    | ok c =>
      rw [put_cons_ok hc, put_cons_ok (c := norm c) (by rw [child_norm hu, hc]; rfl), setChild_norm hu hc,
        put_norm rest x (uk_docInv.child hu hc)]

theorem apply_sim (f : Final) (t : JVal) (p : List Bytes) (hu : UK t) :
    (apply true false f t p).1 = (apply false false (normF f) (norm t) p).1 ∧
    norm (apply true false f t p).2 = (apply false false (normF f) (norm t) p).2 := by
  rcases List.eq_nil_or_concat p with rfl | ⟨loc, k, rfl⟩
  · cases f <;> simp [apply, normF]
  · rw [List.concat_eq_append, apply_snoc, apply_snoc, get_sim loc hu]
    cases hg : get t loc with
    | error e => exact ⟨rfl, rfl⟩
    | ok c =>
      have hs := finalStep_sim f c k (uk_docInv.get loc hu hg)
      exact ⟨hs.1, (put_norm loc _ hu).trans (congrArg (put (norm t) loc) hs.2)⟩

theorem wfMembers_sortMembers : ∀ {ms : List (Bytes × JVal)}, WFMembers ms → WFMembers (sortMembers ms)
  | [], _ => trivial
  | (_, _) :: _, h => wfMembers_insertSorted h.1 (wfMembers_sortMembers h.2)

mutual
  theorem norm_wf : ∀ t : JVal, UK t → (norm t).WF
    | .arr xs, hu => normList_wf xs hu
    | .obj ms, hu => by
      have huo : (keys ms).Nodup ∧ UKMembers ms := hu
      exact ⟨sorted_sortedNorm huo.1, wfMembers_sortMembers (normMembers_wf ms huo.2)⟩
    | .null, _ | .bool _, _ | .int _, _ | .str _, _ => by simp [norm, JVal.WF]
  theorem normList_wf : ∀ xs : List JVal, UKList xs → WFList (normList xs)
    | [], _ => trivial
    | x :: xs, h => ⟨norm_wf x h.1, normList_wf xs h.2⟩
  theorem normMembers_wf : ∀ ms : List (Bytes × JVal), UKMembers ms → WFMembers (normMembers ms)
    | [], _ => trivial
    | (_, x) :: ms, h => ⟨norm_wf x h.1, normMembers_wf ms h.2⟩
end

end Pointer

namespace Patch
open Assoc Pointer JsonPath

/-- equal as JSON values up to the member order of objects; carries unique keys from right to left -/
def REq (a b : JVal) : Prop := (UK b → UK a) ∧ norm a = norm b

theorem REq.refl (a : JVal) : REq a a := ⟨id, rfl⟩
theorem REq.trans {a b c : JVal} (h1 : REq a b) (h2 : REq b c) : REq a c :=
  ⟨fun h => h1.1 (h2.1 h), h1.2.trans h2.2⟩

theorem remInv_ordered (t : JVal) (hu : UK t) : RemInv true REq t := by
  intro loc val hg
  have hu1 : UK (Pointer.apply true false .remove t loc).2 := uk_docInv.apply (f := .remove) trivial hu loc
  have hval : UK val := uk_docInv.get loc hu hg
  have s1 := apply_sim .remove t loc hu
  have hg' : get (norm t) loc = .ok (norm val) := by rw [get_sim loc hu, hg]; rfl
  have hinv := apply_remove_undo_sorted (norm t) loc (norm val) (norm_wf t hu) hg'
  have s2 := apply_sim (.add val) (Pointer.apply true false .remove t loc).2 loc hu1
  simp only [normF] at s1 s2
  rw [s1.2, hinv] at s2
  refine ⟨(Pointer.apply true false (.add val) (Pointer.apply true false .remove t loc).2 loc).2, ⟨?_, s2.2⟩, ?_⟩
  · intro _
    exact uk_docInv.apply (f := .add val) hval hu1 loc
  · exact Prod.ext s2.1 rfl

theorem unwind_congr : ∀ (s : List Undo) (a b : JVal), UK a → UK b → norm a = norm b → LogVal UK s →
    UK (unwind true a s) ∧ UK (unwind true b s) ∧ norm (unwind true a s) = norm (unwind true b s)
  | [], a, b, ha, hb, hab, _ => ⟨ha, hb, hab⟩
  | u :: us, a, b, ha, hb, hab, hs => by
    have hus : LogVal UK us := fun u' h => hs u' (List.mem_cons_of_mem _ h)
    have hf : u.final.Val UK := hs u List.mem_cons_self
    have sa := apply_sim u.final a u.path ha
    have sb := apply_sim u.final b u.path hb
    rw [hab] at sa
    have ua := uk_docInv.apply hf ha u.path
    have ub := uk_docInv.apply hf hb u.path
    rw [unwind_cons, unwind_cons, sb.1.trans sa.1.symm]
    cases (Pointer.apply true false u.final a u.path).1 with
    | some e => exact ⟨ua, ub, sa.2.trans sb.2.symm⟩
    | none => exact unwind_congr us _ _ ua ub (sa.2.trans sb.2.symm) hus

def OpValUK (operation : JVal) : Prop :=
  ∀ om v, operation = .obj om → find sValue om = some v → UK v

theorem opValUK_of_uk {operation : JVal} (h : UK operation) : OpValUK operation := by
  intro om v he hf
  subst he
  exact ((uk_iff _).1 h).2 _ (mem_of_find hf)

theorem applyLoop_atomic_ordered (d : JVal) (ops : List JVal) (t : JVal) (stack : List Undo)
    (hops : ∀ op ∈ ops, OpValUK op) (hu : UK t) (hs : LogVal UK stack) (hr : REq (unwind true t stack) d)
    (h : (applyLoop true t ops stack).1 ≠ none) : REq (applyLoop true t ops stack).2 d := by
  refine applyLoop_atomic true REq UK (LogVal UK) (fun _ _ _ h1 h2 => h1.trans h2) ?_ d ops t stack ?_ hu hs hr h
  · intro a b s hab hb hs
    have := unwind_congr s a b (hab.1 hb) hb hab.2 hs
    exact ⟨fun _ => this.1, this.2.2⟩
  · intro op hm t stack hu hs
    have huk := applyOp_inv uk_docInv t op hu (hops op hm)
    exact ⟨applyOp_undoes REq REq.refl true t op (fun _ => Or.inr (remInv_ordered t hu)), huk.1, logVal_append huk.2 hs⟩

end Patch
end Model
end JV
