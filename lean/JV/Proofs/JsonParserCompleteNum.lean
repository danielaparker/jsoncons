/-
  JV.Proofs.JsonParserCompleteNum — COMPLETENESS, numbers: a number of the RFC 8259 reference, in any context, is
  read by the number sub-automaton of the model and reported as one event carrying the literal; the literal ends when the
  next character arrives or the input ends.
-/
import JV.Proofs.JsonParserCompleteWs
import JV.Proofs.JsonParserNumber
namespace JV
namespace Model
namespace JsonParser

theorem numNext_int (ns ns' : NS) (c : Nat) (h : numNext ns c = some ns') :
    isIntNS ns' = (isIntNS ns && !fracCh c) := by
  by_cases hf : c = 46 ∨ c = 101 ∨ c = 69
  · rcases hf with rfl | rfl | rfl <;> cases ns <;> cases h <;> rfl
  · have hfc : fracCh c = false := by simp [fracCh]; omega
    have h46 : c ≠ 46 := by omega
    have he : isExp c = false := by simp [isExp]; omega
    rw [hfc]
    cases ns <;> simp only [numNext, h46, he, if_false, Bool.false_eq_true] at h <;> (repeat' split at h) <;> cases h <;> rfl

theorem numRun_int : ∀ (pre : Bytes) (ns f : NS), numRun ns pre = some f → isIntNS f = (isIntNS ns && !pre.any fracCh)
  | [], ns, f, h => by simp [numRun] at h; subst h; simp
  | c :: cs, ns, f, h => by
    simp only [numRun] at h
    cases hn : numNext ns c with
    | none => simp [hn] at h
    | some ns' =>
      simp only [hn] at h
      rw [numRun_int cs ns' f h, numNext_int ns ns' c hn]
      simp [Bool.and_assoc]

theorem numStart_int (c : Nat) (ns0 : NS) (h : numStart c = some ns0) : isIntNS ns0 = true ∧ fracCh c = false := by
  have hc : fracCh c = false := by
    have := numStart_range c ns0 h
    simp only [fracCh, Bool.or_eq_false_iff, decide_eq_false_iff_not]
    omega
  unfold numStart at h
  (repeat' split at h) <;> cases h <;> exact ⟨rfl, hc⟩

theorem endNum_ctx {stk n} (h : Ctx stk n) (s : St) (hs : s.stack = stk) :
    endNum s = { s with st := afterSt n, evs := (if isIntNS s.ns then Ev.int s.buf else Ev.frac s.buf) :: s.evs } := by
  unfold endNum endInteger endFraction
  by_cases hi : isIntNS s.ns = true <;> simp only [hi, if_true, Bool.false_eq_true, if_false] <;>
    rw [afterValue_ctx h _ (by simpa [emit] using hs)] <;> simp [emit]

theorem number_end (cfg : Cfg) {stk n} (hctx : Ctx stk n) (s : St) (r : Bytes) (hst : s.st = .number) (he : s.err = none)
    (hstk : s.stack = stk) (hf : numFinal s.ns = true)
    (hr : ∀ d r', r = d :: r' → numNext s.ns d = none ∧ isDigit d = false) :
    finish (feed cfg s r) = finish (feed cfg (endNum s) r) := by
  have hend := endNum_ctx hctx s hstk
  have he1 : (endNum s).err = none := by rw [hend]; exact he
  have hst1 : (endNum s).st = afterSt n := by rw [hend]
  cases r with
  | nil =>
    have h1 : finish1 s = endNum s := by
      unfold finish1 endNum
      cases hns : s.ns <;> simp [hns, numFinal] at hf <;> simp [hst, isIntNS]
    simp only [feed_nil]
    rw [finish_eq s he, h1, finish_eq (endNum s) he1]
    by_cases h0 : n = 0
    · have hst1' : (endNum s).st = .accept := by rw [hst1]; simp [afterSt, h0]
      have h2 : finish1 (endNum s) = { endNum s with st := .done } := by simp [finish1, hst1']
      simp [h2, he1, hst1']
    · have hst1' : (endNum s).st = .expectCommaOrEnd := by rw [hst1]; simp [afterSt, h0]
      have h2 : finish1 (endNum s) = fail (endNum s) eUnexpectedEof := by simp [finish1, hst1']
      simp [h2, he1, hst1', fail]
  | cons d r' =>
    obtain ⟨h1, h2⟩ := hr d r' rfl
    rw [feed_cons, feed_cons]
    congr 2
    have hstep : stepChar cfg s d = (endNum s, false) := by
      simp only [stepChar, hst]
      rw [stepNumber_eq, h1, if_neg (by simp [hf]), if_neg (by simp [h2])]
    apply feedChar_redispatch cfg s (endNum s) d he hstep he1
    apply stepChar_consumed <;> rw [hst1] <;> unfold afterSt <;> split <;> simp

theorem feed_number_value (cfg : Cfg) {stk n} (hctx : Ctx stk n) (s0 : St) (c : Nat) (cs lit r : Bytes)
    (hp : Spec.Rfc8259.parseNumber (c :: cs) = some (lit, r)) (hnd : NoDigitHead r)
    (hs : vState s0.st = true) (he : s0.err = none) (hstk : s0.stack = stk) :
    ∃ s1, finish (feed cfg s0 (c :: cs)) = finish (feed cfg s1 r) ∧ s1.st = afterSt n ∧ s1.stack = s0.stack ∧
      s1.level = s0.level ∧ s1.err = none ∧ s1.evs = numEv lit :: s0.evs := by
  have hrest : specRest (c :: cs) = some r := by rw [← parseNumber_rest, hp]; rfl
  rw [specRest_cons] at hrest
  rcases hns0 : numStart c with _ | ns0 <;> rw [hns0] at hrest
  · cases hrest
  obtain ⟨i1, i2⟩ := numStart_int c ns0 hns0
  rcases hsc : numScan ns0 cs with ⟨f, r0⟩
  obtain ⟨pre, -, e2, e3, hp', hfeed⟩ := feed_number_scan cfg s0 c cs ns0 f r0 hs he hns0 hsc
  rw [hp] at hp'
  split at hp'
  · rename_i hf
    cases hp'
    let sE : St := { s0 with st := .number, ns := f, buf := c :: pre }
    have hfin := number_end cfg hctx sE r rfl he hstk hf (by
      intro d r' e; exact ⟨e3 d r' e, hnd d r' e⟩)
    refine ⟨endNum sE, by rw [hfeed]; exact hfin, ?_⟩
    rw [endNum_ctx hctx sE hstk]
    refine ⟨rfl, rfl, rfl, he, ?_⟩
    have hint := numRun_int pre ns0 f e2
    simp only [sE, List.cons.injEq, and_true]
    unfold numEv
    simp only [List.any_cons, i2, Bool.false_or]
    rw [hint, i1]
    cases hany : pre.any fracCh <;> simp
  · cases hp'

end JsonParser
end Model
end JV
