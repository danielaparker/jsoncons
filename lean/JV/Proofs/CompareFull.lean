/-
  JV.Proofs.CompareFull — how the kind × kind switch of `compare` is organised: storage kinds fall into families (null, bool, the three
  number kinds, the two object kinds, half, string, byte string, array); two values of different families are ordered by their kind
  indices, two of the same family by the family's own arm. Scalars of one family compare by an integer key, strings as bytes,
  containers as `vecCmp` over their elements. From this, `compare b a = - compare a b` for values without NaN and infinity.
-/
import JV.Proofs.CompareLex
import JV.Proofs.CompareNum
namespace JV
namespace Model
namespace Compare

/-- `key_value` three-way: the key decides, then the value -/
def kvCmp (p q : Bytes × CVal) : Int := thenCmp (bytesCmp p.1 q.1) (compare p.2 q.2)

theorem arrEq_eq : ∀ xs ys : List CVal, arrEq xs ys = allEq compare xs ys
  | [], [] => by simp [arrEq, allEq]
  | [], _ :: _ => by simp [arrEq, allEq]
  | _ :: _, [] => by simp [arrEq, allEq]
  | x :: xs, y :: ys => by simp [arrEq, allEq, arrEq_eq xs ys]

theorem arrLt_eq : ∀ xs ys : List CVal, arrLt xs ys = lexLt compare xs ys
  | [], [] => by simp [arrLt, lexLt]
  | [], _ :: _ => by simp [arrLt, lexLt]
  | _ :: _, [] => by simp [arrLt, lexLt]
  | x :: xs, y :: ys => by simp [arrLt, lexLt, arrLt_eq xs ys]

theorem kv_eq_iff (k l : Bytes) (x y : CVal) : (k == l && compare x y == 0) = (kvCmp (k, x) (l, y) == 0) := by
  simp only [kvCmp, thenCmp, bytesCmp_eq]
  rcases Assoc.keyLt_trichotomy k l with h | h | h
  · simp [h, Assoc.keyLt_ne h]
  · subst h; simp [Assoc.keyLt_irrefl]
  · have : ¬ k = l := fun e => Assoc.keyLt_ne h e.symm
    simp [h, Assoc.keyLt_asymm h, this]

theorem kv_lt_iff (k l : Bytes) (x y : CVal) : (keyLt k l || (k == l && compare x y < 0)) = decide (kvCmp (k, x) (l, y) < 0) := by
  simp only [kvCmp, thenCmp, bytesCmp_eq]
  rcases Assoc.keyLt_trichotomy k l with h | h | h
  · simp [h]
  · subst h; simp [Assoc.keyLt_irrefl]
  · have : ¬ k = l := fun e => Assoc.keyLt_ne h e.symm
    simp [h, Assoc.keyLt_asymm h, this]

theorem objEq_eq : ∀ ms ns : List (Bytes × CVal), objEq ms ns = allEq kvCmp ms ns
  | [], [] => by simp [objEq, allEq]
  | [], _ :: _ => by simp [objEq, allEq]
  | _ :: _, [] => by simp [objEq, allEq]
  | (k, x) :: ms, (l, y) :: ns => by
    simp only [objEq, allEq, objEq_eq ms ns, Bool.and_assoc]
    rw [← Bool.and_assoc, kv_eq_iff]

theorem objLt_eq : ∀ ms ns : List (Bytes × CVal), objLt ms ns = lexLt kvCmp ms ns
  | [], [] => by simp [objLt, lexLt]
  | [], _ :: _ => by simp [objLt, lexLt]
  | _ :: _, [] => by simp [objLt, lexLt]
  | (k, x) :: ms, (l, y) :: ns => by
    simp only [objLt, lexLt, objLt_eq ms ns, kv_lt_iff, decide_eq_true_eq]

theorem compare_arr (xs ys : List CVal) : compare (.arr xs) (.arr ys) = vecCmp compare xs ys := by
  simp [compare, vecCmp, arrEq_eq, arrLt_eq]

theorem compare_obj (ms ns : List (Bytes × CVal)) : compare (.obj ms) (.obj ns) = vecCmp kvCmp ms ns := by
  simp [compare, vecCmp, objEq_eq, objLt_eq]

theorem kvCmp_antisymm (p q : Bytes × CVal) (h : compare q.2 p.2 = - compare p.2 q.2) : kvCmp q p = - kvCmp p q := by
  unfold kvCmp
  rw [bytesCmp_antisymm p.1 q.1, h]
  exact thenCmp_neg _ _

theorem kvCmp_le_trans (p q r : Bytes × CVal)
    (T : compare p.2 q.2 ≤ 0 → compare q.2 r.2 ≤ 0 → compare p.2 r.2 ≤ 0)
    (h1 : kvCmp p q ≤ 0) (h2 : kvCmp q r ≤ 0) : kvCmp p r ≤ 0 :=
  thenCmp_le_trans (bytesCmp_antisymm p.1 q.1) (bytesCmp_antisymm q.1 r.1) (bytesCmp_antisymm p.1 r.1)
    (bytesCmp_le_trans p.1 q.1 r.1) (bytesCmp_le_trans r.1 p.1 q.1) (bytesCmp_le_trans q.1 r.1 p.1) T h1 h2

theorem sizeOf_snd_lt_of_mem {ms : List (Bytes × CVal)} {p : Bytes × CVal} (h : p ∈ ms) : sizeOf p.2 < sizeOf ms := by
  have := List.sizeOf_lt_of_mem h
  have e : sizeOf p = 1 + sizeOf p.1 + sizeOf p.2 := by cases p; simp
  omega

/-- the groups of storage kinds that `compare` handles in one arm of its switch -/
inductive Family where
  | null | bool | num | obj | half | str | bstr | arr

/-- kinds of one family meet in an arm of their own (`json()` and a real object both count as objects) -/
def family : CVal → Family
  | .null => .null
  | .bool _ => .bool
  | .i64 _ | .u64 _ | .dbl _ => .num
  | .emptyObj | .obj _ => .obj
  | .half _ => .half
  | .str _ => .str
  | .bstr _ => .bstr
  | .arr _ => .arr

/-- int64, uint64 or double -/
def isNum : CVal → Bool
  | .i64 _ => true
  | .u64 _ => true
  | .dbl _ => true
  | _ => false

/-- `family a = f`, spelled as the shape of `a` (to case on) -/
def OfFamily : Family → CVal → Prop
  | .null, a => a = .null
  | .bool, a => ∃ x, a = .bool x
  | .num, a => isNum a = true
  | .obj, a => a = .emptyObj ∨ ∃ ms, a = .obj ms
  | .half, a => ∃ x, a = .half x
  | .str, a => ∃ s, a = .str s
  | .bstr, a => ∃ s, a = .bstr s
  | .arr, a => ∃ xs, a = .arr xs

theorem ofFamily_family (a : CVal) : OfFamily (family a) a := by
  cases a <;> first | rfl | exact ⟨_, rfl⟩ | exact .inl rfl | exact .inr ⟨_, rfl⟩

/-- every default arm of the switch: `static_cast<int>(storage_kind()) - static_cast<int>(rhs.storage_kind())` -/
theorem compare_of_family_ne {a b : CVal} (h : family a ≠ family b) : compare a b = cmpII (kind a) (kind b) := by
  rw [← sgn_sub]
  -- for each kind of `a`, `rw [compare]` can only use the equation of the default arm (`b` is a variable); the goal then closes
  -- by `rfl`, and the equation's side conditions "`b` is not of a kind `a` has an arm with" contradict `h`
  cases a <;> rw [compare] <;> first | rfl | (intros; subst_vars; exact h rfl)

mutual
  /-- no NaN and no infinity anywhere (double or half); stored integers in their C++ ranges -/
  def finite : CVal → Bool
    | .i64 v => decide (-(2 ^ 63 : Int) ≤ v ∧ v < 2 ^ 63)
    | .u64 v => decide (v < 2 ^ 64)
    | .dbl b => dExp b != 2047
    | .half h => dExp (halfToDouble h) != 2047
    | .arr xs => finiteL xs
    | .obj ms => finiteM ms
    | _ => true
  def finiteL : List CVal → Bool
    | [] => true
    | x :: xs => finite x && finiteL xs
  def finiteM : List (Bytes × CVal) → Bool
    | [] => true
    | (_, x) :: ms => finite x && finiteM ms
end

theorem finiteL_mem {xs : List CVal} : finiteL xs = true → ∀ x ∈ xs, finite x = true :=
  forall_mem_of_all finiteL finite (fun _ _ => by rw [finiteL])

theorem finiteM_mem {ms : List (Bytes × CVal)} : finiteM ms = true → ∀ p ∈ ms, finite p.2 = true :=
  forall_mem_of_all finiteM (fun p => finite p.2) (fun _ _ => by rw [finiteM])

theorem subSign_fin (a b : Nat) (ha : dExp a ≠ 2047) (hb : dExp b ≠ 2047) : subSign a b = cmpII (dKey a) (dKey b) := by
  simp [subSign, isNaN, ha, hb, cmpII]

/-- the `dKey` of the double an int64 converts to (`conv_i64`) -/
def ikey (v : Int) : Int := if v < 0 then -(natToDouble (-v).toNat : Int) else (natToDouble v.toNat : Int)

theorem conv_u64 (v : Nat) (h : v < 2 ^ 64) : dExp (u64ToDouble v) ≠ 2047 ∧ dKey (u64ToDouble v) = (natToDouble v : Int) := by
  have b := natToDouble_le v h
  unfold u64ToDouble dExp dKey dSign dMag
  generalize natToDouble v = d at *
  have : d / 2 ^ 63 % 2 = 0 := by omega
  refine ⟨by omega, ?_⟩
  simp only [this, if_true]
  omega

theorem conv_i64 (v : Int) (h1 : -(2 ^ 63 : Int) ≤ v) (h2 : v < 2 ^ 63) : dExp (i64ToDouble v) ≠ 2047 ∧ dKey (i64ToDouble v) = ikey v := by
  unfold i64ToDouble ikey
  by_cases hv : v < 0
  · simp only [hv, if_true]
    have b := natToDouble_le (-v).toNat (by omega)
    unfold dExp dKey dSign dMag
    generalize natToDouble (-v).toNat = d at *
    have : (2 ^ 63 + d) / 2 ^ 63 % 2 = 1 := by omega
    refine ⟨by omega, ?_⟩
    simp only [this]
    simp
    omega
  · simp only [hv, if_false]
    have := conv_u64 v.toNat (by omega)
    simpa [u64ToDouble] using this

def Family.scalar : Family → Bool
  | .null | .bool | .num | .half => true
  | _ => false

def isInt : CVal → Bool
  | .i64 _ | .u64 _ => true
  | _ => false

def ival : CVal → Int
  | .i64 v => v
  | .u64 v => v
  | _ => 0

/-- an integer that orders the doubles as their values; a stored integer has the key of its conversion to double -/
def skey : CVal → Int
  | .bool b => if b then 1 else 0
  | .i64 v => dKey (i64ToDouble v)
  | .u64 v => dKey (u64ToDouble v)
  | .dbl b => dKey b
  | .half h => dKey (halfToDouble h)
  | _ => 0

/-- two stored integers compare exactly; every other pair of scalars of one family by `skey` (an integer meets a double as a double) -/
theorem compare_scalar {a b : CVal} (h : family a = family b) (hs : (family a).scalar = true) (ha : finite a = true) (hb : finite b = true) :
    compare a b = if (isInt a && isInt b) = true then cmpII (ival a) (ival b) else cmpII (skey a) (skey b) := by
  cases a <;> cases hs <;> cases b <;> cases h <;> rw [compare] <;>
    simp only [finite, decide_eq_true_eq, bne_iff_ne, ne_eq] at ha hb <;>
    simp only [isInt, ival, skey, Bool.and_self, Bool.and_false, Bool.false_and, Bool.false_eq_true, if_true, if_false]
  · exact sgn_sub _ _                                            -- null, null
  · exact sgn_sub _ _                                            -- bool, bool
  · exact cmpIU_eq _ _ ha.2                                      -- int64, uint64  (int64, int64 is closed by the `simp only`)
  · exact subSign_fin _ _ (conv_i64 _ ha.1 ha.2).1 hb            -- int64, double
  · exact cmpUI_eq _ _ hb.2                                      -- uint64, int64
  · exact cmpUU_eq _ _                                           -- uint64, uint64
  · exact subSign_fin _ _ (conv_u64 _ ha).1 hb                   -- uint64, double
  · exact subSign_fin _ _ ha (conv_i64 _ hb.1 hb.2).1            -- double, int64
  · exact subSign_fin _ _ ha (conv_u64 _ hb).1                   -- double, uint64
  · exact subSign_fin _ _ ha hb                                  -- double, double
  · exact subSign_fin _ _ ha hb                                  -- half, half

theorem compare_antisymm_aux : ∀ n : Nat, ∀ a b : CVal, sizeOf a < n → sizeOf b < n → finite a = true → finite b = true →
    compare b a = - compare a b
  | 0, _, _, h, _, _, _ => absurd h (Nat.not_lt_zero _)
  | n + 1, a, b, hna, hnb, ha, hb => by
    by_cases h : family a = family b
    · have sa := ofFamily_family a
      have sb := ofFamily_family b
      rw [← h] at sb
      have A : ∀ u v : CVal, finite u = true ∧ sizeOf u < n → finite v = true ∧ sizeOf v < n → compare v u = - compare u v :=
        fun u v hu hv => compare_antisymm_aux n u v hu.2 hv.2 hu.1 hv.1
      cases hf : family a <;> rw [hf] at sa sb
      case null | bool | num | half =>
        rw [compare_scalar h (by rw [hf]; rfl) ha hb, compare_scalar h.symm (by rw [← h, hf]; rfl) hb ha, Bool.and_comm]
        split <;> exact cmpII_antisymm _ _
      case str | bstr =>
        obtain ⟨x, rfl⟩ := sa
        obtain ⟨y, rfl⟩ := sb
        rw [compare, compare]
        exact bytesCmp_antisymm x y
      case arr =>
        obtain ⟨xs, rfl⟩ := sa
        obtain ⟨ys, rfl⟩ := sb
        simp only [CVal.arr.sizeOf_spec] at hna hnb
        rw [compare_arr, compare_arr]
        exact vecCmp_antisymm compare _ A xs ys
          (fun x hx => ⟨finiteL_mem ha x hx, by have := List.sizeOf_lt_of_mem hx; omega⟩)
          (fun y hy => ⟨finiteL_mem hb y hy, by have := List.sizeOf_lt_of_mem hy; omega⟩)
      case obj =>
        rcases sa with rfl | ⟨ms, rfl⟩ <;> rcases sb with rfl | ⟨ns, rfl⟩
        · rw [compare]; rfl
        · rw [compare, compare]; split <;> rfl
        · rw [compare, compare]; split <;> rfl
        · simp only [CVal.obj.sizeOf_spec] at hna hnb
          rw [compare_obj, compare_obj]
          exact vecCmp_antisymm kvCmp (fun p => finite p.2 = true ∧ sizeOf p.2 < n)
            (fun p q hp hq => kvCmp_antisymm p q (A p.2 q.2 hp hq)) ms ns
            (fun p hp => ⟨finiteM_mem ha p hp, by have := sizeOf_snd_lt_of_mem hp; omega⟩)
            (fun q hq => ⟨finiteM_mem hb q hq, by have := sizeOf_snd_lt_of_mem hq; omega⟩)
    · rw [compare_of_family_ne h, compare_of_family_ne (Ne.symm h)]
      exact cmpII_antisymm _ _

theorem compare_antisymm_fin (a b : CVal) (ha : finite a = true) (hb : finite b = true) : compare b a = - compare a b :=
  compare_antisymm_aux _ a b (Nat.lt_succ_of_le (Nat.le_max_left _ _)) (Nat.lt_succ_of_le (Nat.le_max_right _ _)) ha hb

theorem compare_refl_fin (a : CVal) (ha : finite a = true) : compare a a = 0 := by
  have := compare_antisymm_fin a a ha ha
  omega

end Compare
end Model
end JV
