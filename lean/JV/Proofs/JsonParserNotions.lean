/-
  JV.Proofs.JsonParserNotions — the vocabulary the completeness proofs (`JsonParserComplete*`) and the soundness proofs
  (`JsonParserSound*`) share, and the definitions the statements of `Props.C02` are written in.
-/
import JV.Proofs.JsonParser
namespace JV
namespace Model
namespace JsonParser
open Spec.Rfc8259 (JT Flags parseValue parseText skipWs isWs hex4)

/-- `Ctx stk n`: `stk` is the stack of enclosing containers above `.root`; `n` is its depth and equals `St.level` -/
inductive Ctx : List PS → Nat → Prop
  | root : Ctx [.root] 0
  | arr {stk n} : Ctx stk n → Ctx (.array :: stk) (n + 1)
  | obj {stk n} : Ctx stk n → Ctx (.object :: stk) (n + 1)

/-- the state after a value at nesting level `n` -/
def afterSt (n : Nat) : PS := if n = 0 then .accept else .expectCommaOrEnd

theorem Ctx.parent_cases {stk n} (h : Ctx stk n) :
    (stk.headD .root = .root ∧ n = 0) ∨ ((stk.headD .root = .array ∨ stk.headD .root = .object) ∧ n ≠ 0) := by
  cases h <;> simp

theorem afterValue_ctx {stk n} (h : Ctx stk n) (s : St) (hs : s.stack = stk) : afterValue s = { s with st := afterSt n } := by
  cases h <;> simp [afterValue, parent, hs, afterSt]

theorem afterLiteral_ctx {n} (s : St) (hl : s.level = n) : afterLiteral s = { s with st := afterSt n } := by
  by_cases h0 : n = 0 <;> simp [afterLiteral, hl, afterSt, h0]

theorem afterSt_succ (n : Nat) : afterSt (n + 1) = .expectCommaOrEnd := rfl

def crOf (s : St) : St := { (push s s.st) with st := .cr }

def slashOf (s : St) : St := { (push s s.st) with st := .slash }

theorem finish_eq (s : St) (he : s.err = none) : finish s =
    (if (finish1 s).err.isSome || (finish1 s).st = .done then finish1 s
     else if (finish1 (finish1 s)).err.isSome || (finish1 (finish1 s)).st = .done then finish1 (finish1 s)
     else finish1 (finish1 (finish1 s))) := by
  simp [finish, he]

/-- `s` is empty or starts with a character that is not a digit. The side condition of every statement about a number followed
    by `s`: the machine ends a number only on the next character and fails on a digit after `0`, while the reference reads
    `parseNumber "01" = some ("0", "1")`. Callers discharge it because a value is followed by white space, `,`, `]`, `}` or the end. -/
def NoDigitHead (s : Bytes) : Prop := ∀ d r, s = d :: r → isDigit d = false

theorem noDigitHead_nil : NoDigitHead [] := by intro d r e; cases e

theorem noDigitHead_cons (c : Nat) (r : Bytes) (h : isDigit c = false) : NoDigitHead (c :: r) := by
  intro d r' e; cases e; exact h

/-- what `ws` (with or without comments) skips begins with a white-space character or `/`, never a digit -/
theorem noDigitHead_of_skipWs (cm : Bool) (n : Nat) (s t : Bytes) (h : skipWs cm n s = some t) (ht : NoDigitHead t) :
    NoDigitHead s := by
  intro d r e
  subst e
  by_cases hd : isWs d = true ∨ d = 47
  · rcases hd with hw | rfl
    · rcases (isWs_iff d).1 hw with h | h | h | h <;> subst h <;> rfl
    · rfl
  · have : skipWs cm n (d :: r) = some (d :: r) := by
      cases n with
      | zero => simp [skipWs]
      | succ n => simp only [not_or] at hd; simp [skipWs, hd.1, hd.2]
    rw [this] at h
    exact ht d r (Option.some.inj h).symm

theorem noDigitHead_of_dropWs (s : Bytes) (h : NoDigitHead (dropWs s)) : NoDigitHead s :=
  noDigitHead_of_skipWs false _ s _ (skipWs_dropWs s) h

theorem dropWs_noDigit_of_head (s : Bytes) (c : Nat) (rest : Bytes) (h : dropWs s = c :: rest) (hc : isDigit c = false) :
    NoDigitHead s :=
  noDigitHead_of_dropWs s (by rw [h]; exact noDigitHead_cons c rest hc)

/-- the characters that make a literal a "fraction" for the visitor: '.', 'e', 'E' -/
def fracCh (c : Nat) : Bool := c = 46 || c = 101 || c = 69

def numEv (lit : Bytes) : Ev := if lit.any fracCh then .frac lit else .int lit

/-- forget whether a string value was written without escapes (the reference's `JT.str` does not record it) -/
def Ev.eraseNoesc : Ev → Ev
  | .str s _ => .str s true
  | e => e

mutual
  /-- the visitor calls a value of the reference stands for, in document order (duplicate member names kept) -/
  def eventsOf : JT → List Ev
    | .null => [.null]
    | .bool b => [.bool b]
    | .num lit => [numEv lit]
    | .str s => [.str s true]
    | .arr xs => .beginArray :: (eventsOfElems xs ++ [.endArray])
    | .obj ms => .beginObject :: (eventsOfMembers ms ++ [.endObject])
  def eventsOfElems : List JT → List Ev
    | [] => []
    | x :: xs => eventsOf x ++ eventsOfElems xs
  def eventsOfMembers : List (Bytes × JT) → List Ev
    | [] => []
    | (k, x) :: ms => .key k :: (eventsOf x ++ eventsOfMembers ms)
end

def er (l : List Ev) : List Ev := l.map Ev.eraseNoesc

theorem er_cons (e : Ev) (l : List Ev) : er (e :: l) = e.eraseNoesc :: er l := rfl

def isHi (u : Nat) : Bool := 0xD800 ≤ u && u ≤ 0xDBFF

def isLo (u : Nat) : Bool := 0xDC00 ≤ u && u ≤ 0xDFFF

/-- the text, read escape by escape (a backslash and the character after it are one unit; `\u` takes four hex digits), contains
    neither a low-surrogate escape `\uDC00`–`\uDFFF` that is not the second half of a pair, nor a high-surrogate escape
    `\uD800`–`\uDBFF` directly followed by a `\uXXXX` escape that is not a low surrogate. Where the digits are not hexadecimal,
    or a high surrogate is followed by something that is not a `\u` escape, both parsers refuse the text and the scan stops with
    `true`. -/
def surrogateOK : Bytes → Bool
  | [] => true
  | c :: cs =>
    if c = 92 then
      match cs with
      | [] => true
      | e :: r =>
        if e = 117 then
          match r with
          | a :: b :: c' :: d :: r1 =>
            match hex4 [a, b, c', d] with
            | none => true
            | some (u, _) =>
              if isLo u then false
              else if isHi u then
                match r1 with
                | 92 :: 117 :: a2 :: b2 :: c2 :: d2 :: r3 =>
                  match hex4 [a2, b2, c2, d2] with
                  | none => true
                  | some (lo, _) => isLo lo && surrogateOK r3
                | _ => true
              else surrogateOK r1
          | _ => true
        else surrogateOK r
    else surrogateOK cs

abbrev strictFlags (cfg : Cfg) : Flags := { comments := false, trailingComma := false, maxDepth := cfg.maxDepth }

abbrev tcFlags (cfg : Cfg) : Flags := { comments := false, trailingComma := cfg.trailingComma, maxDepth := cfg.maxDepth }

abbrev optFlags (cfg : Cfg) : Flags := { comments := cfg.comments, trailingComma := cfg.trailingComma, maxDepth := cfg.maxDepth }

/-- the reference's `JSON-text` with PLAIN white space only after the value: `ws value *( %x20 / %x09 / %x0A / %x0D )` — the parser's
    `check_done`, which reads the input after the root value, knows no comments (finding D22) -/
def parseTextPlainTail (fl : Flags) (s : Bytes) : Option JT :=
  match skipWs fl.comments (s.length + 1) s with
  | none => none
  | some s1 =>
    match parseValue fl (s1.length + 1) 0 s1 with
    | none => none
    | some (v, s2) => if dropWs s2 = [] then some v else none

/-- no comment after the root value (decidable; `true` when the reference reads no value at all) -/
def plainTail (fl : Flags) (s : Bytes) : Bool :=
  match skipWs fl.comments (s.length + 1) s with
  | none => true
  | some s1 =>
    match parseValue fl (s1.length + 1) 0 s1 with
    | none => true
    | some (_, s2) => dropWs s2 = []

theorem parseTextPlainTail_nc (fl : Flags) (hc : fl.comments = false) (s : Bytes) : parseTextPlainTail fl s = parseText fl s := by
  unfold parseTextPlainTail parseText
  rw [hc, skipWs_dropWs]
  simp only
  cases h2 : parseValue fl ((dropWs s).length + 1) 0 (dropWs s) with
  | none => rfl
  | some p =>
    simp only
    rw [skipWs_dropWs]
    generalize dropWs p.2 = w
    cases w <;> simp

theorem parseTextPlainTail_some (fl : Flags) (s : Bytes) (v : JT) :
    parseTextPlainTail fl s = some v ↔ (parseText fl s = some v ∧ plainTail fl s = true) := by
  unfold parseTextPlainTail parseText plainTail
  cases h1 : skipWs fl.comments (s.length + 1) s with
  | none => simp
  | some s1 =>
    simp only
    cases h2 : parseValue fl (s1.length + 1) 0 s1 with
    | none => simp
    | some p =>
      obtain ⟨v', s2⟩ := p
      simp only
      by_cases hd : dropWs s2 = []
      · have : skipWs fl.comments (s2.length + 1) s2 = some [] := by
          rcases skipWs_of_dropWs_nil fl.comments (s2.length + 1) s2 hd with e | e
          · exact e
          · omega
        simp [hd, this]
      · simp [hd]

end JsonParser
end Model
end JV
