/-
  JV.Proofs.BigIntSigned — the class invariant (`reduce()`d word lists), `compare`, and signed `+=` / `-=`.
-/
import JV.Proofs.BigIntRadix
namespace JV
namespace Model
namespace BigInt

/-- the class invariant after `reduce()`: words below 2^64 and no zero word at the high end -/
def Normal (m : List Nat) : Prop := Words m ∧ stripHigh m = m

theorem stripHigh_idem : ∀ (xs : List Nat), stripHigh (stripHigh xs) = stripHigh xs
  | [] => rfl
  | x :: xs => by
    have ih := stripHigh_idem xs
    simp only [stripHigh]
    cases h : stripHigh xs with
    | nil =>
      by_cases hx : x = 0
      · simp [hx, stripHigh]
      · simp [hx, stripHigh]
    | cons y ys =>
      rw [h] at ih
      show (match stripHigh (y :: ys) with
        | [] => if x = 0 then [] else [x]
        | zs => x :: zs) = x :: y :: ys
      rw [ih]

theorem normal_stripHigh {m : List Nat} (h : Words m) : Normal (stripHigh m) :=
  ⟨stripHigh_words h, stripHigh_idem m⟩

theorem normal_nil : Normal [] := ⟨fun _ h => by simp at h, rfl⟩

theorem normal_lower : ∀ (m : List Nat), stripHigh m = m → m ≠ [] → B ^ (m.length - 1) ≤ val m
  | [], _, h => absurd rfl h
  | x :: xs, hs, _ => by
    simp only [stripHigh] at hs
    cases h : stripHigh xs with
    | nil =>
      rw [h] at hs
      by_cases hx : x = 0
      · simp [hx] at hs
      · simp only [hx, if_false] at hs
        injection hs with _ h2
        subst h2
        simp [val]; omega
    | cons y ys =>
      rw [h] at hs
      simp only [] at hs
      injection hs with _ h2
      have hxs : stripHigh xs = xs := by rw [h]; exact h2
      have hne : xs ≠ [] := by rw [← h2]; simp
      have ih := normal_lower xs hxs hne
      simp only [val, List.length_cons, Nat.add_sub_cancel]
      have hl : xs.length = (xs.length - 1) + 1 := by
        cases xs with
        | nil => exact absurd rfl hne
        | cons _ _ => simp
      rw [hl, Nat.pow_succ, Nat.mul_comm]
      have := Nat.mul_le_mul_left B ih
      omega

theorem valM_lt : ∀ {ws : List Nat}, Words ws → valM ws < B ^ ws.length := by
  intro ws h
  rw [valM_eq]
  have := val_lt (words_reverse h)
  simpa using this

theorem cmpWordsRev_spec : ∀ (xs ys : List Nat), xs.length = ys.length → Words xs → Words ys →
    (cmpWordsRev xs ys > 0 ↔ valM xs > valM ys) ∧ (cmpWordsRev xs ys < 0 ↔ valM xs < valM ys)
  | [], [], _, _, _ => by simp [cmpWordsRev, valM]
  | [], _ :: _, h, _, _ => by simp at h
  | _ :: _, [], h, _, _ => by simp at h
  | x :: xs, y :: ys, h, hx, hy => by
    simp only [List.length_cons, Nat.add_right_cancel_iff] at h
    have ih := cmpWordsRev_spec xs ys h hx.tail hy.tail
    have b1 := valM_lt hx.tail
    have b2 := valM_lt hy.tail
    rw [h] at b1
    simp only [cmpWordsRev, valM, h]
    generalize B ^ ys.length = P at *
    generalize cmpWordsRev xs ys = c at *
    rcases Nat.lt_trichotomy x y with hlt | heq | hgt
    · have : (x + 1) * P ≤ y * P := Nat.mul_le_mul_right P hlt
      rw [Nat.add_mul] at this
      rw [if_neg (Nat.lt_asymm hlt), if_pos hlt]
      omega
    · subst heq
      rw [if_neg (Nat.lt_irrefl x), if_neg (Nat.lt_irrefl x)]
      omega
    · have : (y + 1) * P ≤ x * P := Nat.mul_le_mul_right P hgt
      rw [Nat.add_mul] at this
      rw [if_pos hgt]
      omega

theorem val_lt_of_shorter {x y : List Nat} (hx : Words x) (hy : Normal y) (h : x.length < y.length) : val x < val y := by
  have l1 := normal_lower y hy.2 (by intro e; rw [e] at h; simp at h)
  have l2 := val_lt hx
  have l3 : B ^ x.length ≤ B ^ (y.length - 1) := Nat.pow_le_pow_right B_pos (by omega)
  omega

theorem cmpMag_spec (x y : List Nat) (hx : Normal x) (hy : Normal y) :
    (cmpMag x y > 0 ↔ val x > val y) ∧ (cmpMag x y < 0 ↔ val x < val y) ∧
      (cmpMag x y > 0 → y.length ≤ x.length) ∧ (¬ cmpMag x y > 0 → x.length ≤ y.length) := by
  unfold cmpMag
  by_cases h1 : x.length < y.length
  · have := val_lt_of_shorter hx.1 hy h1
    rw [if_pos h1]
    omega
  · by_cases h2 : x.length > y.length
    · have := val_lt_of_shorter hy.1 hx h2
      rw [if_neg h1, if_pos h2]
      omega
    · rw [if_neg h1, if_neg h2]
      have hl : x.length = y.length := by omega
      obtain ⟨c1, c2⟩ := cmpWordsRev_spec x.reverse y.reverse (by simp [hl]) (words_reverse hx.1) (words_reverse hy.1)
      rw [valM_eq, valM_eq, List.reverse_reverse, List.reverse_reverse] at c1 c2
      exact ⟨c1, c2, fun _ => by omega, fun _ => by omega⟩

/-!
`add` and `sub` call each other with one unit of fuel less. Operands of different signs go to the other operation on the negated
operand, which then has equal signs; `sub` on equal signs with the smaller magnitude first calls itself once on the swapped operands.
The longest chain is add → sub → sub: equal signs need fuel 1 (`add`) or 2 (`sub`), different signs one more; the `sub 4` of
the model's `addWordBig` and the `add 4` / `sub 4` of Props.C04 leave room. -/

theorem add_succ (f : Nat) (a b : Big) :
    add (f + 1) a b = if a.neg ≠ b.neg then sub f a (negate b) else reduce a.neg (addMag a.mag b.mag) := by
  simp only [add]

theorem sub_succ (f : Nat) (a b : Big) :
    sub (f + 1) a b = if a.neg ≠ b.neg then add f a (negate b)
      else if (!a.neg && compare b a > 0) || (a.neg && compare b a < 0) then negate (sub f b a)
      else reduce a.neg (subLoop a.mag b.mag 0) := by
  simp only [sub]

theorem toInt_negate (b : Big) : toInt (negate b) = - toInt b := by
  unfold toInt negate
  cases b.neg <;> simp

theorem compare_same (a b : Big) (hs : a.neg = b.neg) :
    compare b a = if b.neg then -(cmpMag b.mag a.mag) else cmpMag b.mag a.mag := by
  unfold compare
  by_cases he : b.mag = [] ∧ a.mag = []
  · rw [if_pos he, he.1, he.2]
    cases b.neg <;> simp [cmpMag, cmpWordsRev]
  · rw [if_neg he]
    have : ¬ (b.neg ≠ a.neg) := by simp [hs]
    rw [if_neg this]

theorem sub_swaps_iff (a b : Big) (hs : a.neg = b.neg) :
    ((!a.neg && decide (compare b a > 0)) || (a.neg && decide (compare b a < 0))) = true ↔ cmpMag b.mag a.mag > 0 := by
  rw [compare_same a b hs, ← hs]
  cases a.neg
  · simp
  · simp <;> omega

theorem sub_final (a b : Big) (ha : Words a.mag) (hb : Words b.mag) (hs : a.neg = b.neg)
    (hl : b.mag.length ≤ a.mag.length) (hv : val b.mag ≤ val a.mag) :
    toInt (reduce a.neg (subLoop a.mag b.mag 0)) = toInt a - toInt b ∧ Normal (reduce a.neg (subLoop a.mag b.mag 0)).mag := by
  obtain ⟨s1, s2⟩ := subLoop_val a.mag b.mag ha hb hl hv
  refine ⟨?_, by unfold reduce; exact normal_stripHigh s2⟩
  rw [toInt_reduce]
  unfold toInt
  simp only [s1, ← hs]
  cases a.neg
  · simp; omega
  · simp; omega

theorem sub_same (f : Nat) (a b : Big) (ha : Normal a.mag) (hb : Normal b.mag) (hs : a.neg = b.neg) :
    toInt (sub (f + 2) a b) = toInt a - toInt b ∧ Normal (sub (f + 2) a b).mag := by
  obtain ⟨c1, c2, c3, c4⟩ := cmpMag_spec b.mag a.mag hb ha
  obtain ⟨d1, d2, d3, d4⟩ := cmpMag_spec a.mag b.mag ha hb
  have hne : ¬ (a.neg ≠ b.neg) := by simp [hs]
  have hne' : ¬ (b.neg ≠ a.neg) := by simp [hs]
  rw [sub_succ, if_neg hne]
  by_cases hg : cmpMag b.mag a.mag > 0
  · rw [if_pos ((sub_swaps_iff a b hs).2 hg)]
    have hng : ¬ cmpMag a.mag b.mag > 0 := by
      intro h; have := d1.1 h; have := c1.1 hg; omega
    rw [sub_succ, if_neg hne', if_neg (fun h => hng ((sub_swaps_iff b a hs.symm).1 h))]
    obtain ⟨r1, r2⟩ := sub_final b a hb.1 ha.1 hs.symm (c3 hg) (by have := c1.1 hg; omega)
    refine ⟨by rw [toInt_negate, r1]; omega, ?_⟩
    simpa [negate] using r2
  · rw [if_neg (fun h => hg ((sub_swaps_iff a b hs).1 h))]
    exact sub_final a b ha.1 hb.1 hs (c4 hg) (by
      rcases Nat.lt_or_ge (val a.mag) (val b.mag) with h | h
      · exact absurd (c1.2 h) hg
      · exact h)

theorem add_same (f : Nat) (a b : Big) (ha : Normal a.mag) (hb : Normal b.mag) (hs : a.neg = b.neg) :
    toInt (add (f + 1) a b) = toInt a + toInt b ∧ Normal (add (f + 1) a b).mag := by
  have hne : ¬ (a.neg ≠ b.neg) := by simp [hs]
  rw [add_succ, if_neg hne]
  obtain ⟨s1, s2⟩ := addMag_val a.mag b.mag ha.1 hb.1
  refine ⟨?_, by unfold reduce; exact normal_stripHigh s2⟩
  rw [toInt_reduce]
  unfold toInt
  simp only [s1, ← hs]
  cases a.neg
  · simp
  · simp; omega

theorem negate_neg (b : Big) : (negate b).neg = !b.neg := rfl
theorem negate_mag (b : Big) : (negate b).mag = b.mag := rfl

theorem normal_pos {m : List Nat} (h : Normal m) (hne : m ≠ []) : 0 < val m :=
  Nat.lt_of_lt_of_le (Nat.pow_pos B_pos) (normal_lower m h.2 hne)

end BigInt
end Model
end JV
