/-
  JV.Proofs.Typed — the conversion is a retraction onto the typed values: converting a converted value changes nothing.
  (Typed round trip: `conv t j = ok v` says `v` is the JSON form of a value of type `t`; decoding that encoding again gives `v`.)
  Proved for the descriptors built from integers, strings, booleans, sequences, maps, tuples, pairs, fixed arrays, optionals and
  enumerations; sets, variants and structs are covered by the correspondence check only.
-/
import JV.Model.Typed
namespace JV
namespace Model
namespace Typed

mutual
  def Simple : Ty → Prop
    | .int lo hi => lo ≤ 0 ∧ 1 ≤ hi          -- every C++ integer type
    | .str => True
    | .bool => True
    | .seq t => Simple t
    | .set _ _ => False
    | .map t => Simple t
    | .tuple ts => SimpleList ts
    | .pair a b => Simple a ∧ Simple b
    | .array t _ => Simple t
    | .opt t => Simple t
    | .enum _ => True
    | .variant _ => False
    | .struct _ => False
  def SimpleList : List Ty → Prop
    | [] => True
    | t :: ts => Simple t ∧ SimpleList ts
end

theorem convList_cons_ok {t : Ty} {x : JVal} {xs ys : List JVal} (h : convList t (x :: xs) = .ok ys) :
    ∃ y r, conv t x = .ok y ∧ convList t xs = .ok r ∧ ys = y :: r := by
  rw [convList] at h
  repeat' split at h
  all_goals cases h
  exact ⟨_, _, ‹_›, ‹_›, rfl⟩

theorem convMembers_cons_ok {t : Ty} {k : Bytes} {x : JVal} {ms ys : List (Bytes × JVal)}
    (h : convMembers t ((k, x) :: ms) = .ok ys) :
    ∃ y r, conv t x = .ok y ∧ convMembers t ms = .ok r ∧ ys = (k, y) :: r := by
  rw [convMembers] at h
  repeat' split at h
  all_goals cases h
  exact ⟨_, _, ‹_›, ‹_›, rfl⟩

theorem convTuple_cons_ok {t : Ty} {ts : List Ty} {x : JVal} {xs ys : List JVal} (h : convTuple (t :: ts) (x :: xs) = .ok ys) :
    ∃ y r, conv t x = .ok y ∧ convTuple ts xs = .ok r ∧ ys = y :: r := by
  rw [convTuple] at h
  repeat' split at h
  all_goals cases h
  exact ⟨_, _, ‹_›, ‹_›, rfl⟩

theorem convList_length (t : Ty) : ∀ (xs ys : List JVal), convList t xs = .ok ys → ys.length = xs.length
  | [], ys, h => by
    rw [convList, Except.ok.injEq] at h
    rw [← h]
  | x :: xs, ys, h => by
    obtain ⟨y, r, _, hr, rfl⟩ := convList_cons_ok h
    simp [convList_length t xs r hr]

def Idem (t : Ty) : Prop := ∀ (j v : JVal), conv t j = .ok v → conv t v = .ok v

theorem convList_idem (t : Ty) (ih : Idem t) : ∀ (xs ys : List JVal), convList t xs = .ok ys → convList t ys = .ok ys
  | [], ys, h => by
    rw [convList, Except.ok.injEq] at h
    rw [← h, convList]
  | x :: xs, ys, h => by
    obtain ⟨y, r, hx, hr, rfl⟩ := convList_cons_ok h
    simp [convList, ih x y hx, convList_idem t ih xs r hr]

theorem convMembers_idem (t : Ty) (ih : Idem t) : ∀ (ms ys : List (Bytes × JVal)), convMembers t ms = .ok ys → convMembers t ys = .ok ys
  | [], ys, h => by
    rw [convMembers, Except.ok.injEq] at h
    rw [← h, convMembers]
  | (k, x) :: ms, ys, h => by
    obtain ⟨y, r, hx, hr, rfl⟩ := convMembers_cons_ok h
    simp [convMembers, ih x y hx, convMembers_idem t ih ms r hr]

def IdemAll : List Ty → Prop
  | [] => True
  | t :: ts => Idem t ∧ IdemAll ts

theorem convTuple_idem : ∀ (ts : List Ty), IdemAll ts → ∀ (xs ys : List JVal), convTuple ts xs = .ok ys → convTuple ts ys = .ok ys
  | [], _, xs, ys, h => by
    simp only [convTuple, Except.ok.injEq] at h
    subst h
    simp [convTuple]
  | _ :: _, _, [], ys, h => by simp [convTuple] at h
  | t :: ts, ih, x :: xs, ys, h => by
    obtain ⟨y, r, hx, hr, rfl⟩ := convTuple_cons_ok h
    simp [convTuple, ih.1 x y hx, convTuple_idem ts ih.2 xs r hr]

theorem conv_int_ok {lo hi : Int} {j v : JVal} (h : conv (.int lo hi) j = .ok v) :
    (∃ i, j = .int i ∧ v = .int i ∧ lo ≤ i ∧ i ≤ hi) ∨ (∃ b, j = .bool b ∧ v = .int (if b then 1 else 0)) := by
  unfold conv at h
  split at h
  · split at h
    · cases h
      exact .inl ⟨_, rfl, rfl, ‹_›⟩
    · cases h
  · cases h
    exact .inr ⟨_, rfl, rfl⟩
  · split at h <;> cases h
  · cases h

theorem conv_seq_ok {t : Ty} {j v : JVal} (h : conv (.seq t) j = .ok v) :
    ∃ xs ys, j = .arr xs ∧ convList t xs = .ok ys ∧ v = .arr ys := by
  unfold conv at h
  repeat' split at h
  all_goals cases h
  exact ⟨_, _, rfl, ‹_›, rfl⟩

theorem conv_map_ok {t : Ty} {j v : JVal} (h : conv (.map t) j = .ok v) :
    ∃ ms ys, j = .obj ms ∧ convMembers t ms = .ok ys ∧ v = .obj ys := by
  unfold conv at h
  repeat' split at h
  all_goals cases h
  exact ⟨_, _, rfl, ‹_›, rfl⟩

theorem conv_tuple_ok {ts : List Ty} {j v : JVal} (h : conv (.tuple ts) j = .ok v) :
    ∃ xs ys, j = .arr xs ∧ convTuple ts xs = .ok ys ∧ v = .arr ys := by
  unfold conv at h
  repeat' split at h
  all_goals cases h
  exact ⟨_, _, rfl, ‹_›, rfl⟩

theorem conv_pair_ok {a b : Ty} {j v : JVal} (h : conv (.pair a b) j = .ok v) :
    ∃ x y x' y', j = .arr [x, y] ∧ conv a x = .ok x' ∧ conv b y = .ok y' ∧ v = .arr [x', y'] := by
  unfold conv at h
  repeat' split at h
  all_goals cases h
  exact ⟨_, _, _, _, rfl, ‹_›, ‹_›, rfl⟩

theorem conv_array_ok {t : Ty} {n : Nat} {j v : JVal} (h : conv (.array t n) j = .ok v) :
    ∃ xs ys, j = .arr xs ∧ xs.length = n ∧ convList t xs = .ok ys ∧ v = .arr ys := by
  unfold conv at h
  repeat' split at h
  all_goals cases h
  exact ⟨_, _, rfl, ‹_›, ‹_›, rfl⟩

theorem conv_enum_ok {names : List Bytes} {j v : JVal} (h : conv (.enum names) j = .ok v) :
    ∃ s, j = .str s ∧ names.contains s = true ∧ v = .str s := by
  unfold conv at h
  repeat' split at h
  all_goals cases h
  exact ⟨_, rfl, ‹_›, rfl⟩

theorem conv_opt_null (t : Ty) : conv (.opt t) .null = .ok .null := by
  unfold conv
  rfl

theorem conv_opt_of_ne_null (t : Ty) {v : JVal} (h : v ≠ .null) : conv (.opt t) v = conv t v := by
  rw [conv]
  exact h

mutual
  theorem conv_idem : ∀ (t : Ty), Simple t → Idem t
    | .int lo hi, hsi => by
      intro j v h
      rcases conv_int_ok h with ⟨i, _, rfl, hr⟩ | ⟨b, _, rfl⟩
      · simp [conv, hr]
      · -- from a boolean, 1 or 0: re-converting it needs `lo ≤ 0 ∧ 1 ≤ hi`, which is `Simple (.int lo hi)`
        have h0 : lo ≤ 0 ∧ 1 ≤ hi := hsi
        cases b <;> simp [conv] <;> omega
    | .str, _ => by
      intro j v h
      unfold conv at h
      split at h <;> cases h
      simp [conv]
    | .bool, _ => by
      intro j v h
      unfold conv at h
      repeat' split at h
      all_goals cases h
      all_goals simp [conv]
    | .seq t, hs => by
      intro j v h
      obtain ⟨xs, ys, _, hl, rfl⟩ := conv_seq_ok h
      simp [conv, convList_idem t (conv_idem t hs) xs ys hl]
    | .map t, hs => by
      intro j v h
      obtain ⟨ms, ys, _, hl, rfl⟩ := conv_map_ok h
      simp [conv, convMembers_idem t (conv_idem t hs) ms ys hl]
    | .tuple ts, hs => by
      intro j v h
      obtain ⟨xs, ys, _, hl, rfl⟩ := conv_tuple_ok h
      simp [conv, convTuple_idem ts (conv_idem_all ts hs) xs ys hl]
    | .pair a b, hs => by
      intro j v h
      obtain ⟨x, y, x', y', _, hx, hy, rfl⟩ := conv_pair_ok h
      simp [conv, conv_idem a hs.1 x x' hx, conv_idem b hs.2 y y' hy]
    | .array t n, hs => by
      intro j v h
      obtain ⟨xs, ys, _, hn, hl, rfl⟩ := conv_array_ok h
      simp [conv, convList_length t xs ys hl, hn, convList_idem t (conv_idem t hs) xs ys hl]
    | .opt t, hs => by
      intro j v h
      by_cases hv : v = .null
      · rw [hv, conv_opt_null]
      · rw [conv_opt_of_ne_null t hv]
        by_cases hj : j = .null
        · rw [hj, conv_opt_null] at h
          cases h
          exact absurd rfl hv
        · rw [conv_opt_of_ne_null t hj] at h
          exact conv_idem t hs j v h
    | .enum names, _ => by
      intro j v h
      obtain ⟨s, _, hc, rfl⟩ := conv_enum_ok h
      simpa [conv] using hc
    | .set _ _, hs => absurd hs (by simp [Simple])
    | .variant _, hs => absurd hs (by simp [Simple])
    | .struct _, hs => absurd hs (by simp [Simple])
  theorem conv_idem_all : ∀ (ts : List Ty), SimpleList ts → IdemAll ts
    | [], _ => trivial
    | t :: ts, hs => ⟨conv_idem t hs.1, conv_idem_all ts hs.2⟩
end

theorem conv_bind_conv (t : Ty) (ht : Simple t) (j : JVal) : (conv t j).bind (conv t) = conv t j := by
  cases h : conv t j with
  | error e => rfl
  | ok v => exact conv_idem t ht j v h

end Typed
end Model
end JV
