/-
  JV.Proofs.JsonParserString — the string sub-automaton of the parser model (`stepString`, json_parser.hpp:1963-2338) on whole
  escapes: `\uXXXX` and surrogate pairs are decoded to the UTF-8 of the scalar value the RFC 8259 reference assigns them.
-/
import JV.Proofs.JsonParser
namespace JV
namespace Model
namespace JsonParser

theorem hexVal_eq (c : Nat) : hexVal c = Spec.Rfc8259.hexVal c := rfl

theorem hexVal_lt {c v : Nat} (h : hexVal c = some v) : v < 16 := by
  unfold hexVal at h
  repeat' split at h
  all_goals cases h <;> omega

theorem hex4_eq {a b c d u : Nat} (h : Spec.Rfc8259.hex4 [a, b, c, d] = some (u, [])) :
    ∃ w x y z, hexVal a = some w ∧ hexVal b = some x ∧ hexVal c = some y ∧ hexVal d = some z ∧ u = ((w * 16 + x) * 16 + y) * 16 + z := by
  unfold Spec.Rfc8259.hex4 at h
  simp only [← hexVal_eq] at h
  cases ha : hexVal a <;> cases hb : hexVal b <;> cases hc : hexVal c <;> cases hd : hexVal d <;> simp only [ha, hb, hc, hd, reduceCtorEq, Option.some.injEq, Prod.mk.injEq, and_true] at h
  exact ⟨_, _, _, _, rfl, rfl, rfl, rfl, h.symm⟩

theorem convert_eq_utf8Encode (u : Nat) (h : u < 0xD800 ∨ (0xE000 ≤ u ∧ u ≤ 0x10FFFF)) : convert u = Spec.Rfc8259.utf8Encode u := by
  unfold convert Spec.Rfc8259.utf8Encode
  rw [if_neg (by omega), if_pos (show u ≤ 0x10FFFF by omega)]

theorem feed_string_cons (cfg : Cfg) (s : St) (c : Nat) (cs : Bytes) (hst : s.st = .string) (he : s.err = none) :
    feed cfg s (c :: cs) = feed cfg (stepString s c) cs := by
  rw [feed_cons, feedChar_string cfg s c hst he]

theorem feed_u4 (cfg : Cfg) (s : St) (a b c d u : Nat) (hst : s.st = .string) (hss : s.ss = .u1) (he : s.err = none)
    (hx : Spec.Rfc8259.hex4 [a, b, c, d] = some (u, [])) :
    feed cfg s [a, b, c, d] =
      (if 0xD800 ≤ u ∧ u ≤ 0xDBFF then { s with cp := u, ss := .pair1 }
       else { s with cp := u, buf := s.buf ++ convert u, ss := .text }) := by
  obtain ⟨w, x, y, z, ha, hb, hc, hd, rfl⟩ := hex4_eq hx
  simp only [feed_string_cons, feed_nil, stepString, hexStep, hst, hss, he, ha, hb, hc, hd]
  simp

theorem feed_pair_low (cfg : Cfg) (s : St) (a b c d lo : Nat) (hst : s.st = .string) (hss : s.ss = .pair1) (he : s.err = none)
    (hx : Spec.Rfc8259.hex4 [a, b, c, d] = some (lo, [])) :
    feed cfg s [92, 117, a, b, c, d] =
      { s with cp2 := lo, buf := s.buf ++ convert (0x10000 + (s.cp % 1024) * 1024 + lo % 1024), ss := .text } := by
  obtain ⟨w, x, y, z, ha, hb, hc, hd, rfl⟩ := hex4_eq hx
  simp only [feed_string_cons, feed_nil, stepString, hexStep2, hst, hss, he, ha, hb, hc, hd, if_true]
  simp

theorem feed_escape_u (cfg : Cfg) (s : St) (hst : s.st = .string) (hss : s.ss = .escape) (he : s.err = none) :
    feed cfg s [117] = { s with cp := 0, ss := .u1 } := by
  simp [feed_string_cons, feed_nil, stepString, hst, hss, he]

theorem escape_u_scalar (cfg : Cfg) (s : St) (a b c d u : Nat) (hst : s.st = .string) (hss : s.ss = .escape) (he : s.err = none)
    (hx : Spec.Rfc8259.hex4 [a, b, c, d] = some (u, [])) (hu : u < 0xD800 ∨ 0xE000 ≤ u) :
    feed cfg s [117, a, b, c, d] = { s with cp := u, buf := s.buf ++ Spec.Rfc8259.utf8Encode u, ss := .text } := by
  have hlt : u < 0x10000 := by
    obtain ⟨w, x, y, z, ha, hb, hc, hd, rfl⟩ := hex4_eq hx
    have := hexVal_lt ha; have := hexVal_lt hb; have := hexVal_lt hc; have := hexVal_lt hd
    omega
  rw [show [117, a, b, c, d] = [117] ++ [a, b, c, d] from rfl, feed_append, feed_escape_u cfg s hst hss he, feed_u4 cfg _ a b c d u (by exact hst) rfl (by exact he) hx,
    if_neg (by omega), convert_eq_utf8Encode u (by omega)]

theorem escape_u_pair (cfg : Cfg) (s : St) (a b c d e f g h hi lo : Nat) (hst : s.st = .string) (hss : s.ss = .escape) (he : s.err = none)
    (hx : Spec.Rfc8259.hex4 [a, b, c, d] = some (hi, [])) (hy : Spec.Rfc8259.hex4 [e, f, g, h] = some (lo, []))
    (hhi : 0xD800 ≤ hi ∧ hi ≤ 0xDBFF) (hlo : 0xDC00 ≤ lo ∧ lo ≤ 0xDFFF) :
    feed cfg s [117, a, b, c, d, 92, 117, e, f, g, h] =
      { s with cp := hi, cp2 := lo, buf := s.buf ++ Spec.Rfc8259.utf8Encode (0x10000 + (hi - 0xD800) * 1024 + (lo - 0xDC00)), ss := .text } := by
  rw [show [117, a, b, c, d, 92, 117, e, f, g, h] = [117] ++ ([a, b, c, d] ++ [92, 117, e, f, g, h]) from rfl, feed_append, feed_append,
    feed_escape_u cfg s hst hss he, feed_u4 cfg _ a b c d hi (by exact hst) rfl (by exact he) hx, if_pos hhi,
    feed_pair_low cfg _ e f g h lo (by exact hst) rfl (by exact he) hy]
  have e1 : hi % 1024 = hi - 0xD800 := by omega
  have e2 : lo % 1024 = lo - 0xDC00 := by omega
  simp only [e1, e2]
  rw [convert_eq_utf8Encode _ (by omega)]

end JsonParser
end Model
end JV
