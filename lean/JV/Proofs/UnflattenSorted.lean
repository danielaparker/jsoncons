/-
  JV.Proofs.UnflattenSorted — the pointer map `unflatten` builds from `flatten d` is `SL d`.
  `SL d` lists the (token path, leaf) pairs of `d` block by block, one block per child, children in
  `std::string` order of their names; the elements of an array are named by their indices, so an array
  has the blocks of the object with those member names (`named`).  `SL d` is strictly increasing in
  `vector<string>` order and has the members of `leaves d`; a strictly increasing list is determined
  by its members, so it is what `collect` makes of `flatten d`.  Its partition `items` is one item per child.
-/
import JV.Proofs.UnflattenLeaves
namespace JV
namespace SMap
open Model Model.Pointer Assoc

abbrev Block := Bytes × List Entry

def joinBlocks (bs : List Block) : List Entry := bs.flatMap (fun b => b.2.map (pre b.1))

mutual
  def SL : JVal → List Entry
    | .arr [] => [([], .arr [])]
    | .arr (x :: xs) => joinBlocks (emplaceAll keyLt [] (SLElems 0 (x :: xs)))
    | .obj [] => [([], .obj [])]
    | .obj (m :: ms) => joinBlocks (SLMembers (m :: ms))
    | v => [([], v)]
  def SLElems : Nat → List JVal → List Block
    | _, [] => []
    | i, x :: xs => (natDigits i, SL x) :: SLElems (i + 1) xs
  def SLMembers : List (Bytes × JVal) → List Block
    | [] => []
    | (k, x) :: ms => (k, SL x) :: SLMembers ms
end

theorem joinBlocks_cons (b : Block) (bs : List Block) : joinBlocks (b :: bs) = b.2.map (pre b.1) ++ joinBlocks bs := by
  simp [joinBlocks]

theorem mem_joinBlocks {bs : List Block} {x : Entry} : x ∈ joinBlocks bs ↔ ∃ b ∈ bs, ∃ e ∈ b.2, x = pre b.1 e := by
  simp only [joinBlocks, List.mem_flatMap, List.mem_map]
  exact ⟨fun ⟨b, hb, e, he, h⟩ => ⟨b, hb, e, he, h.symm⟩, fun ⟨b, hb, e, he, h⟩ => ⟨b, hb, e, he, h.symm⟩⟩

theorem joinBlocks_paths {bs : List Block} : ∀ e ∈ joinBlocks bs, e.1 ≠ [] := by
  intro e he
  obtain ⟨b, _, e', _, rfl⟩ := mem_joinBlocks.1 he
  simp [pre]

theorem ssorted_joinBlocks {bs : List Block} (hs : SSorted keyLt bs) (hb : ∀ b ∈ bs, SSorted toksLt b.2) :
    SSorted toksLt (joinBlocks bs) := by
  rw [ssorted_iff_pairwise] at hs ⊢
  refine List.pairwise_flatMap.2 ⟨fun b hbm => ?_, hs.imp fun {a b} hab x hx y hy => ?_⟩
  · exact List.pairwise_map.2 ((ssorted_iff_pairwise.1 (hb b hbm)).imp fun h => by simpa [pre, toksLt, keyLt_irrefl] using h)
  · obtain ⟨e, _, rfl⟩ := List.mem_map.1 hx
    obtain ⟨e', _, rfl⟩ := List.mem_map.1 hy
    simp [pre, toksLt, hab]

def Proper (blk : List Entry) : Prop := (∃ v, blk = [([], v)]) ∨ (blk ≠ [] ∧ ∀ e ∈ blk, e.1 ≠ [])

def itemOfBlock : Block → Item
  | (t, [([], v)]) => .direct t v
  | (t, blk) => .group t blk

theorem takeWhile_append_split {α : Type} (p : α → Bool) (a b : List α) (ha : ∀ x ∈ a, p x = true) (hb : ∀ y ∈ b, p y = false) :
    (a ++ b).takeWhile p = a ∧ (a ++ b).dropWhile p = b := by
  rw [List.takeWhile_append_of_pos ha, List.dropWhile_append_of_pos ha]
  cases b with
  | nil => simp
  | cons y b => simp [hb y List.mem_cons_self]

theorem map_strip_pre (t : Bytes) (l : List Entry) : (l.map (pre t)).map strip = l := by
  induction l with
  | nil => rfl
  | cons e l ih => simp only [List.map_cons, ih]; cases e; rfl

theorem items_joinBlocks : ∀ {bs : List Block}, SSorted keyLt bs → (∀ b ∈ bs, Proper b.2) →
    items (joinBlocks bs) = bs.map itemOfBlock
  | [], _, _ => by simp [joinBlocks, items]
  | (t, blk) :: bs, hs, hp => by
    have ih := items_joinBlocks hs.2 (fun b h => hp b (List.mem_cons_of_mem _ h))
    rw [joinBlocks_cons, List.map_cons]
    rcases hp (t, blk) List.mem_cons_self with ⟨v, hv⟩ | ⟨hne, hall⟩
    · simp only [] at hv; subst hv
      simp only [List.map_cons, List.map_nil, pre, List.cons_append, List.nil_append, items, itemOfBlock, ih]
    · simp only [] at hne hall
      cases blk with
      | nil => exact absurd rfl hne
      | cons e blk' =>
        obtain ⟨p, v⟩ := e
        cases p with
        | nil => exact absurd rfl (hall _ List.mem_cons_self)
        | cons t2 ts =>
          -- the group opened by the first entry is the rest of this block: later blocks have larger heads
          have hsplit := takeWhile_append_split (headIs t) (blk'.map (pre t)) (joinBlocks bs)
            (by intro x hx; obtain ⟨e, _, rfl⟩ := List.mem_map.1 hx; simp [pre, headIs])
            (by
              intro y hy
              obtain ⟨b, hb, e, _, rfl⟩ := mem_joinBlocks.1 hy
              have := keyLt_ne (hs.1 b hb)
              simp [pre, headIs, Ne.symm this])
          simp only [List.map_cons, pre, List.cons_append, items, hsplit.1, hsplit.2, map_strip_pre, ih, itemOfBlock]

theorem SLMembers_eq_map : ∀ (ms : List (Bytes × JVal)), SLMembers ms = ms.map (fun kv => (kv.1, SL kv.2))
  | [] => rfl
  | (k, x) :: ms => by simp [SLMembers, SLMembers_eq_map ms]

theorem leavesMembers_eq : ∀ (ms : List (Bytes × JVal)), leavesMembers ms = ms.flatMap fun kv => (leaves kv.2).map (pre kv.1)
  | [] => rfl
  | (k, x) :: ms => by simp [leavesMembers, leavesMembers_eq ms]

def idxPairs : Nat → List JVal → List (Nat × JVal)
  | _, [] => []
  | i, x :: xs => (i, x) :: idxPairs (i + 1) xs

theorem idxPairs_lt {p : Nat × JVal} : ∀ {xs : List JVal} {i : Nat}, p ∈ idxPairs i xs → i ≤ p.1 ∧ p.1 < i + xs.length
  | [], _, h => by cases h
  | x :: xs, i, h => by
    rcases List.mem_cons.1 h with h | h
    · subst h; simp
    · have := idxPairs_lt h; simp only [List.length_cons]; omega

theorem idxPairs_sorted : ∀ (xs : List JVal) (i : Nat), SSorted natLt (idxPairs i xs)
  | [], _ => trivial
  | x :: xs, i => ⟨fun e he => by have := idxPairs_lt he; simp [natLt]; omega, idxPairs_sorted xs (i + 1)⟩

theorem idxPairs_contiguous : ∀ (xs : List JVal) (i : Nat), contiguousFrom i (idxPairs i xs) = true
  | [], _ => rfl
  | x :: xs, i => by simp [idxPairs, contiguousFrom, idxPairs_contiguous xs (i + 1)]

theorem idxPairs_snd : ∀ (xs : List JVal) (i : Nat), (idxPairs i xs).map (·.2) = xs
  | [], _ => rfl
  | x :: xs, i => by simp [idxPairs, idxPairs_snd xs (i + 1)]

theorem idxPairs_mem {p : Nat × JVal} {xs : List JVal} {i : Nat} (h : p ∈ idxPairs i xs) : p.2 ∈ xs := by
  rw [← idxPairs_snd xs i]; exact List.mem_map_of_mem h

theorem SLElems_eq : ∀ (xs : List JVal) (i : Nat), SLElems i xs = (idxPairs i xs).map fun p => (natDigits p.1, SL p.2)
  | [], _ => rfl
  | x :: xs, i => by simp [SLElems, idxPairs, SLElems_eq xs (i + 1)]

theorem leavesElems_eq : ∀ (xs : List JVal) (i : Nat),
    leavesElems i xs = (idxPairs i xs).flatMap fun p => (leaves p.2).map (pre (natDigits p.1))
  | [], _ => rfl
  | x :: xs, i => by simp [leavesElems, idxPairs, leavesElems_eq xs (i + 1)]

def named (xs : List JVal) : List (Bytes × JVal) :=
  emplaceAll keyLt [] ((idxPairs 0 xs).map fun p => (natDigits p.1, p.2))

theorem named_spec (xs : List JVal) :
    SSorted keyLt (named xs) ∧ ∀ kv, kv ∈ named xs ↔ ∃ p ∈ idxPairs 0 xs, kv = (natDigits p.1, p.2) := by
  -- index texts are injective, and an index occurs once
  have hf := functional_map_key (fun _ _ => natDigits_inj) (functional_of_ssorted natLt_st (idxPairs_sorted xs 0))
  have := emplaceAll_nil keyLt_st _ hf
  exact ⟨this.1, fun kv => by rw [named, this.2 kv]; simp [List.mem_map, eq_comm]⟩

theorem named_child {xs : List JVal} {kv : Bytes × JVal} (h : kv ∈ named xs) : kv.2 ∈ xs := by
  obtain ⟨p, hp, rfl⟩ := ((named_spec xs).2 kv).1 h
  exact idxPairs_mem hp

theorem SL_arr (x : JVal) (xs : List JVal) : SL (.arr (x :: xs)) = joinBlocks (SLMembers (named (x :: xs))) := by
  rw [SL, SLElems_eq, SLMembers_eq_map, named, ← emplaceAll_map_snd SL _ [], List.map_map]
  rfl

theorem mem_SLMembers {b : Block} {ms : List (Bytes × JVal)} : b ∈ SLMembers ms ↔ ∃ kv ∈ ms, b = (kv.1, SL kv.2) := by
  simp [SLMembers_eq_map, List.mem_map, eq_comm]

theorem ssorted_SLMembers {ms : List (Bytes × JVal)} (h : SSorted keyLt ms) : SSorted keyLt (SLMembers ms) := by
  rw [SLMembers_eq_map, ssorted_iff_pairwise, List.pairwise_map]
  exact ssorted_iff_pairwise.1 h

def IsSortedLeaves (d : JVal) : Prop := SL d ≠ [] ∧ SSorted toksLt (SL d) ∧ ∀ e, e ∈ SL d ↔ e ∈ leaves d

theorem isSortedLeaves_leaf (v : JVal) (h1 : SL v = [([], v)]) (h2 : leaves v = [([], v)]) : IsSortedLeaves v := by
  unfold IsSortedLeaves; rw [h1, h2]
  exact ⟨by simp, by simp [SSorted], fun _ => Iff.rfl⟩

theorem sortedLeaves_joinBlocks {cs : List (Bytes × JVal)} (hs : SSorted keyLt cs) (hne : cs ≠ []) (hc : ∀ kv ∈ cs, IsSortedLeaves kv.2) :
    joinBlocks (SLMembers cs) ≠ [] ∧ SSorted toksLt (joinBlocks (SLMembers cs)) ∧
      ∀ e, e ∈ joinBlocks (SLMembers cs) ↔ ∃ kv ∈ cs, ∃ e' ∈ leaves kv.2, e = pre kv.1 e' := by
  refine ⟨?_, ?_, fun e => ?_⟩
  · cases cs with
    | nil => exact absurd rfl hne
    | cons kv _ =>
      cases hsl : SL kv.2 with
      | nil => exact absurd hsl (hc kv List.mem_cons_self).1
      | cons e _ => simp [SLMembers_eq_map, joinBlocks, hsl]
  · refine ssorted_joinBlocks (ssorted_SLMembers hs) fun b hb => ?_
    obtain ⟨kv, hkv, rfl⟩ := mem_SLMembers.1 hb
    exact (hc kv hkv).2.1
  · rw [mem_joinBlocks]
    constructor
    · rintro ⟨b, hb, e', he', rfl⟩
      obtain ⟨kv, hkv, rfl⟩ := mem_SLMembers.1 hb
      exact ⟨kv, hkv, e', ((hc kv hkv).2.2 e').1 he', rfl⟩
    · rintro ⟨kv, hkv, e', he', rfl⟩
      exact ⟨(kv.1, SL kv.2), mem_SLMembers.2 ⟨kv, hkv, rfl⟩, e', ((hc kv hkv).2.2 e').2 he', rfl⟩

mutual
  theorem isSortedLeaves_of_wf : ∀ (d : JVal), JVal.WF d → IsSortedLeaves d
    | .arr [], _ => isSortedLeaves_leaf _ (by simp [SL]) (by simp [leaves])
    | .arr (x :: xs), hw => by
      have hc := isSortedLeaves_of_wfList (x :: xs) hw
      have hN := named_spec (x :: xs)
      have hB := sortedLeaves_joinBlocks hN.1 (List.ne_nil_of_mem ((hN.2 (natDigits 0, x)).2 ⟨(0, x), List.mem_cons_self, rfl⟩))
        (fun kv hkv => hc kv.2 (named_child hkv))
      rw [IsSortedLeaves, SL_arr]
      refine ⟨hB.1, hB.2.1, fun e => ?_⟩
      rw [hB.2.2 e, leaves, leavesElems_eq]
      simp only [List.mem_flatMap, List.mem_map]
      constructor
      · rintro ⟨kv, hkv, e', he', rfl⟩
        obtain ⟨p, hp, rfl⟩ := (hN.2 kv).1 hkv
        exact ⟨p, hp, e', he', rfl⟩
      · rintro ⟨p, hp, e', he', rfl⟩
        exact ⟨_, (hN.2 _).2 ⟨p, hp, rfl⟩, e', he', rfl⟩
    | .obj [], _ => isSortedLeaves_leaf _ (by simp [SL]) (by simp [leaves])
    | .obj (m :: ms), hw => by
      have hw' : Assoc.Sorted (m :: ms) ∧ WFMembers (m :: ms) := hw
      have hB := sortedLeaves_joinBlocks (sorted_iff_ssorted.1 hw'.1) (List.cons_ne_nil _ _)
        (isSortedLeaves_of_wfMembers (m :: ms) hw'.2)
      rw [IsSortedLeaves, SL, leaves, leavesMembers_eq]
      refine ⟨hB.1, hB.2.1, fun e => ?_⟩
      rw [hB.2.2 e]
      simp only [List.mem_flatMap, List.mem_map, eq_comm]
    | .null, _ | .bool _, _ | .int _, _ | .str _, _ => isSortedLeaves_leaf _ (by simp [SL]) (by simp [leaves])
  theorem isSortedLeaves_of_wfList : ∀ (xs : List JVal), WFList xs → ∀ x ∈ xs, IsSortedLeaves x
    | [], _, _, h => by cases h
    | y :: ys, hw, x, h => by
      rcases List.mem_cons.1 h with h | h
      · rw [h]; exact isSortedLeaves_of_wf y hw.1
      · exact isSortedLeaves_of_wfList ys hw.2 x h
  theorem isSortedLeaves_of_wfMembers : ∀ (ms : List (Bytes × JVal)), WFMembers ms → ∀ kv ∈ ms, IsSortedLeaves kv.2
    | [], _, _, h => by cases h
    | (k, y) :: ms, hw, kv, h => by
      rcases List.mem_cons.1 h with h | h
      · rw [h]; exact isSortedLeaves_of_wf y hw.1
      · exact isSortedLeaves_of_wfMembers ms hw.2 kv h
end

theorem emplaceStr_eq (key : Bytes) (es : List Entry) (acc : List (Bytes × JVal)) (hs : SSorted keyLt acc) :
    emplaceStr key acc es = emplaceAll keyLt acc (es.map (strKey key)) := by
  rw [← foldl_tryEmplace_eq _ acc hs, List.foldl_map]
  rfl

theorem flatten_spec (d : JVal) (hw : JVal.WF d) (hs : SmallArrays d) :
    SSorted keyLt (flattenInto false [] d []) ∧
      ∀ kv, kv ∈ flattenInto false [] d [] ↔ ∃ e ∈ leaves d, kv = (Pointer.toString e.1, e.2) := by
  rw [flattenInto_eq d [] [], emplaceStr_eq [] (leaves d) [] trivial]
  -- distinct paths print differently, and a path addresses one leaf
  have hf : Functional ((leaves d).map (strKey [])) := functional_map_key (fun _ _ => toString_inj) (leaves_functional d hw hs)
  have := emplaceAll_nil keyLt_st _ hf
  exact ⟨this.1, fun kv => by rw [this.2 kv]; simp [strKey, List.mem_map, eq_comm]⟩

def unp (s : Bytes) : List Bytes :=
  match parse s with
  | .ok ts => ts
  | .error _ => []

def unparseKey (kv : Bytes × JVal) : Entry := (unp kv.1, kv.2)

theorem unp_toString (p : List Bytes) : unp (Pointer.toString p) = p := by
  simp [unp, parse_toString]

theorem collect_eq : ∀ (ms : List (Bytes × JVal)) (acc : List Entry), (∀ kv ∈ ms, ∃ p, kv.1 = Pointer.toString p) →
    collect ms acc = .ok (emplaceAll toksLt acc (ms.map unparseKey))
  | [], _, _ => rfl
  | (k, v) :: ms, acc, h => by
    obtain ⟨p, hp⟩ := h (k, v) List.mem_cons_self
    simp only [] at hp
    subst hp
    simp only [collect, parse_toString]
    rw [collect_eq ms _ (fun kv hkv => h kv (List.mem_cons_of_mem _ hkv))]
    simp [emplaceAll, unparseKey, unp_toString]

theorem flatten_collect (d : JVal) (hw : JVal.WF d) (hs : SmallArrays d) :
    ∃ F, flatten false d = .obj F ∧ F ≠ [] ∧ collect F [] = .ok (SL d) := by
  obtain ⟨hne, hsorted, hmemSL⟩ := isSortedLeaves_of_wf d hw
  have hF := (flatten_spec d hw hs).2
  refine ⟨flattenInto false [] d [], rfl, ?_, ?_⟩
  · cases hl : SL d with
    | nil => exact absurd hl hne
    | cons e _ =>
      have he : e ∈ leaves d := (hmemSL e).1 (by rw [hl]; exact List.mem_cons_self)
      exact List.ne_nil_of_mem ((hF _).2 ⟨e, he, rfl⟩)
  · rw [collect_eq _ [] fun kv hkv => by obtain ⟨e, _, rfl⟩ := (hF kv).1 hkv; exact ⟨e.1, rfl⟩]
    congr 1
    have hmem : ∀ x, x ∈ (flattenInto false [] d []).map unparseKey ↔ x ∈ leaves d := by
      intro x
      constructor
      · intro hx
        obtain ⟨kv, hkv, rfl⟩ := List.mem_map.1 hx
        obtain ⟨e, he, rfl⟩ := (hF kv).1 hkv
        simpa [unparseKey, unp_toString] using he
      · intro hx
        exact List.mem_map.2 ⟨_, (hF _).2 ⟨x, hx, rfl⟩, by simp [unparseKey, unp_toString]⟩
    exact emplaceAll_eq toksLt_st hsorted fun x => (hmem x).trans (hmemSL x).symm

end SMap
end JV
