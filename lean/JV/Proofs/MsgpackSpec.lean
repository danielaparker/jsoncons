/-
  JV.Proofs.MsgpackSpec — the MessagePack reference decoder (JV.Spec.Msgpack) in equations: the three local `let`s of its `item`, named so
  that the equations can be stated, what `item` does after each head byte, for any tail, and the steps of its two list readers. The encoder
  round trip (JV.Proofs.MsgpackRoundtrip) and the refinement of the msgpack_parser model (JV.Proofs.MsgpackParser) both read the
  reference through these.
-/
import JV.Spec.BinFormats
import JV.Proofs.Bytes
import JV.Proofs.CborSpec
namespace JV.Spec.Msgpack
open Spec.Cbor (BV Res beVal f32ToF64)
open Model.Cbor (beBytes beVal_beBytes)

def lenThen (w : Nat) (s : Bytes) (k : Nat → Bytes → Res BV) : Res BV :=
  match takeN w s with
  | none => .illformed
  | some (d, r) => k (beVal d) r

def strOf (n : Nat) (s : Bytes) : Res BV :=
  match takeN n s with
  | none => .illformed
  | some (d, r) => if Rfc8259.validUtf8 d then .ok (.str d "") r else .illformed

def binOf (n : Nat) (s : Bytes) : Res BV :=
  match takeN n s with
  | none => .illformed
  | some (d, r) => .ok (.bytes d "") r

theorem lenThen_one (b : Nat) (rest : Bytes) (k : Nat → Bytes → Res BV) : lenThen 1 (b :: rest) k = k b rest := by
  simp [lenThen, takeN, beVal]

theorem lenThen_beBytes (w n : Nat) (rest : Bytes) (k : Nat → Bytes → Res BV) (h : n < 256 ^ w) :
    lenThen w (beBytes w n ++ rest) k = k n rest := by
  simp [lenThen, takeN_beBytes, beVal_beBytes w n h]

theorem strOf_ok (d rest : Bytes) (hv : Rfc8259.validUtf8 d = true) : strOf d.length (d ++ rest) = .ok (.str d "") rest := by
  simp [strOf, takeN_append rfl, hv]

theorem binOf_ok (d rest : Bytes) : binOf d.length (d ++ rest) = .ok (.bytes d "") rest := by
  simp [binOf, takeN_append rfl]

-- not needed for the proofs to go through: it makes Lean generate the equation lemmas of `item` here, once; otherwise every proof
-- below, elaborated on its own, generates them again for its `simp [item, …]`, which is slow to check
attribute [local simp] item

theorem spec_posfix (fuel b : Nat) (s : Bytes) (h : b ≤ 0x7f) : item (fuel + 1) (b :: s) = .ok (.int b "") s := by
  simp [item, h]

theorem spec_fixmap (fuel b : Nat) (s : Bytes) (h1 : 0x80 ≤ b) (h2 : b ≤ 0x8f) :
    item (fuel + 1) (b :: s) = wrapMap (members fuel (b - 0x80) s) := by
  simp [item, show ¬ b ≤ 0x7f by omega, h2]

theorem spec_fixarr (fuel b : Nat) (s : Bytes) (h1 : 0x90 ≤ b) (h2 : b ≤ 0x9f) :
    item (fuel + 1) (b :: s) = wrapArr (items fuel (b - 0x90) s) := by
  simp [item, show ¬ b ≤ 0x7f by omega, show ¬ b ≤ 0x8f by omega, h2]

theorem spec_fixstr (fuel b : Nat) (s : Bytes) (h1 : 0xa0 ≤ b) (h2 : b ≤ 0xbf) :
    item (fuel + 1) (b :: s) = strOf (b - 0xa0) s := by
  simp [item, strOf, show ¬ b ≤ 0x7f by omega, show ¬ b ≤ 0x8f by omega, show ¬ b ≤ 0x9f by omega, h2]
  cases takeN (b - 0xa0) s <;> rfl

theorem spec_negfix (fuel b : Nat) (s : Bytes) (h : 0xe0 ≤ b) : item (fuel + 1) (b :: s) = .ok (.int ((b : Int) - 256) "") s := by
  simp [item, show ¬ b ≤ 0x7f by omega, show ¬ b ≤ 0x8f by omega, show ¬ b ≤ 0x9f by omega, show ¬ b ≤ 0xbf by omega,
    show ¬ b = 0xc0 by omega, show ¬ b = 0xc1 by omega, show ¬ b = 0xc2 by omega, show ¬ b = 0xc3 by omega,
    show ¬ b = 0xc4 by omega, show ¬ b = 0xc5 by omega, show ¬ b = 0xc6 by omega, show ¬ b = 0xc7 by omega,
    show ¬ b = 0xc8 by omega, show ¬ b = 0xc9 by omega, show ¬ b = 0xca by omega, show ¬ b = 0xcb by omega,
    show ¬ b = 0xcc by omega, show ¬ b = 0xcd by omega, show ¬ b = 0xce by omega, show ¬ b = 0xcf by omega,
    show ¬ b = 0xd0 by omega, show ¬ b = 0xd1 by omega, show ¬ b = 0xd2 by omega, show ¬ b = 0xd3 by omega,
    show ¬ (0xd4 ≤ b ∧ b ≤ 0xd8) by omega, show ¬ b = 0xd9 by omega, show ¬ b = 0xda by omega, show ¬ b = 0xdb by omega,
    show ¬ b = 0xdc by omega, show ¬ b = 0xdd by omega, show ¬ b = 0xde by omega, show ¬ b = 0xdf by omega]

/-! the typed heads come in families: consecutive head bytes, the width of the length or payload field doubling from one to the next -/
theorem spec_bin (fuel j : Nat) (hj : j < 3) (s : Bytes) : item (fuel + 1) ((0xc4 + j) :: s) = lenThen (2 ^ j) s binOf := by
  have : j = 0 ∨ j = 1 ∨ j = 2 := by omega
  rcases this with rfl | rfl | rfl <;> rfl

theorem spec_f32 (fuel : Nat) (s : Bytes) :
    item (fuel + 1) (0xca :: s) = lenThen 4 s fun v r => .ok (.dbl (f32ToF64 v) "") r := rfl

theorem spec_f64 (fuel : Nat) (s : Bytes) :
    item (fuel + 1) (0xcb :: s) = lenThen 8 s fun v r => .ok (.dbl v "") r := rfl

theorem spec_uint (fuel j : Nat) (hj : j < 4) (s : Bytes) :
    item (fuel + 1) ((0xcc + j) :: s) = lenThen (2 ^ j) s fun v r => .ok (.int v "") r := by
  have : j = 0 ∨ j = 1 ∨ j = 2 ∨ j = 3 := by omega
  rcases this with rfl | rfl | rfl | rfl <;> rfl

theorem spec_sint (fuel j : Nat) (hj : j < 4) (s : Bytes) :
    item (fuel + 1) ((0xd0 + j) :: s) = lenThen (2 ^ j) s fun v r => .ok (.int (toSigned (8 * 2 ^ j) v) "") r := by
  have : j = 0 ∨ j = 1 ∨ j = 2 ∨ j = 3 := by omega
  rcases this with rfl | rfl | rfl | rfl <;> rfl

theorem spec_str (fuel j : Nat) (hj : j < 3) (s : Bytes) : item (fuel + 1) ((0xd9 + j) :: s) = lenThen (2 ^ j) s strOf := by
  have : j = 0 ∨ j = 1 ∨ j = 2 := by omega
  rcases this with rfl | rfl | rfl <;> rfl

theorem spec_arr (fuel j : Nat) (hj : j < 2) (s : Bytes) :
    item (fuel + 1) ((0xdc + j) :: s) = lenThen (2 ^ (j + 1)) s fun n r => wrapArr (items fuel n r) := by
  have : j = 0 ∨ j = 1 := by omega
  rcases this with rfl | rfl <;> rfl

theorem spec_map (fuel j : Nat) (hj : j < 2) (s : Bytes) :
    item (fuel + 1) ((0xde + j) :: s) = lenThen (2 ^ (j + 1)) s fun n r => wrapMap (members fuel n r) := by
  have : j = 0 ∨ j = 1 := by omega
  rcases this with rfl | rfl <;> rfl

theorem spec_ext (fuel k : Nat) (hk : k < 3) (s : Bytes) : item (fuel + 1) ((0xc7 + k) :: s) =
    lenThen (2 ^ k) s fun n r => if r.length < n + 1 then .illformed else .unjudged := by
  rcases (by omega : k = 0 ∨ k = 1 ∨ k = 2) with rfl | rfl | rfl <;> rfl

theorem spec_fixext (fuel k : Nat) (hk : k < 5) (s : Bytes) : item (fuel + 1) ((0xd4 + k) :: s) =
    if s.length < 2 ^ k + 1 then .illformed else .unjudged := by
  rcases (by omega : k = 0 ∨ k = 1 ∨ k = 2 ∨ k = 3 ∨ k = 4) with rfl | rfl | rfl | rfl | rfl <;> rfl

theorem spec_items_succ (fuel n : Nat) (s : Bytes) : items (fuel + 1) (n + 1) s = (item fuel s).thenCons (items fuel n) := by
  simp only [items]
  cases item fuel s with
  | ok x s1 => cases h : items fuel n s1 <;> simp [Cbor.Res.thenCons, Cbor.Res.map, h]
  | illformed => rfl
  | unjudged => rfl

theorem spec_members_succ (fuel n : Nat) (s : Bytes) :
    members (fuel + 1) (n + 1) s = (item fuel s).thenMember (item fuel) (members fuel n) := by
  simp only [members]
  cases item fuel s with
  | ok k s1 =>
    cases k <;> try rfl
    cases hv : item fuel s1 with
    | ok v s2 => cases h : members fuel n s2 <;> simp [Cbor.Res.thenMember, Cbor.Res.map, hv, h]
    | illformed => simp [Cbor.Res.thenMember, hv]
    | unjudged => simp [Cbor.Res.thenMember, hv]
  | illformed => rfl
  | unjudged => rfl

end JV.Spec.Msgpack
