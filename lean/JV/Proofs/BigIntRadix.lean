/-
  JV.Proofs.BigIntRadix — text and byte radix conversion, division by a divisor below 2^32.
-/
import JV.Proofs.Number
import JV.Proofs.BigIntShift
namespace JV
namespace Model
namespace BigInt

theorem addWord_val (x : List Nat) (y : Nat) (hx : Words x) (hy : y < B) :
    val (addWord x y) = val x + y ∧ Words (addWord x y) := by
  unfold addWord
  have hpl := length_padTo (x.length + 1) x (by omega)
  have hyw : Words [y] := Words.cons hy (fun _ h => nomatch h)
  have h := addLoop_val (padTo (x.length + 1) x) [y] (words_padTo _ hx) hyw (by rw [hpl]; simp) (by
    -- val x < B^n and y < B: the sum is below B^n + B ≤ B^(n+1) (for n = 0, val x = 0)
    rw [val_padTo, hpl, val_one, Nat.pow_succ]
    have hxl := val_lt hx
    cases hn : x.length with
    | zero => rw [hn] at hxl; simp at hxl ⊢; omega
    | succ m =>
      have hB : B ≤ B ^ x.length := by
        rw [hn, Nat.pow_succ]; exact Nat.le_mul_of_pos_left _ (Nat.pow_pos B_pos)
      have h2B : B ^ x.length * 2 ≤ B ^ x.length * B := Nat.mul_le_mul_left _ two_le_B
      rw [← hn]
      omega)
  rwa [val_padTo, val_one] at h

theorem reduce_false (m : List Nat) : reduce false m = { neg := false, mag := stripHigh m } := by
  unfold reduce; simp

theorem pushDigit_spec (r d : Nat) (hr : r < B) (hd : d < B) (v : Big) (hv : v.neg = false) (hw : Words v.mag) :
    (pushDigit r v d).neg = false ∧ Words (pushDigit r v d).mag ∧ val (pushDigit r v d).mag = val v.mag * r + d := by
  have e1 : mulWordBig v r = { neg := false, mag := mulWord v.mag r } := by
    unfold mulWordBig mulWord; rw [hv, reduce_false]
  have hmw := mulWord_words v.mag r hw hr
  have hmv := mulWord_val v.mag r hw hr
  obtain ⟨a1, a2⟩ := addWord_val (mulWord v.mag r) d hmw hd
  have e2 : pushDigit r v d = { neg := false, mag := stripHigh (addWord (mulWord v.mag r) d) } := by
    unfold pushDigit; rw [e1]; unfold addWordBig; simp only [Bool.false_eq_true, if_false]; rw [reduce_false]
  rw [e2]
  exact ⟨rfl, stripHigh_words a2, by simp only [stripHigh_val, a1, hmv]⟩

theorem ofDecimalLoop_ok : ∀ (s : List Nat) (v : Big), AllDigits s → v.neg = false → Words v.mag →
    ∃ b, ofDecimalLoop s v = some b ∧ b.neg = false ∧ Words b.mag ∧ val b.mag = val v.mag * 10 ^ s.length + decVal s
  | [], v, _, hv, hw => ⟨v, rfl, hv, hw, by simp [decVal]⟩
  | c :: cs, v, h, hv, hw => by
    obtain ⟨hc, hcs⟩ := allDigits_cons.1 h
    have hc := isDigit_iff.1 hc
    obtain ⟨p1, p2, p3⟩ := pushDigit_spec 10 (c - 48) (by unfold B; omega) (by unfold B; omega) v hv hw
    obtain ⟨b, b1, b2, b3, b4⟩ := ofDecimalLoop_ok cs (pushDigit 10 v (c - 48)) hcs p1 p2
    refine ⟨b, by rw [ofDecimalLoop, if_pos hc, b1], b2, b3, ?_⟩
    rw [b4, p3]
    simp only [decVal, List.length_cons, Nat.pow_succ]
    rw [Nat.add_mul, Nat.mul_assoc, Nat.mul_comm 10]
    omega

theorem ofDecimalLoop_bad : ∀ (s : List Nat) (v : Big), ¬ AllDigits s → ofDecimalLoop s v = none
  | [], _, h => absurd allDigits_nil h
  | c :: cs, v, h => by
    rw [ofDecimalLoop]
    split
    · next hc => exact ofDecimalLoop_bad cs _ (fun hcs => h (allDigits_cons.2 ⟨isDigit_iff.2 hc, hcs⟩))
    · rfl

theorem decVal_zeros : ∀ (s : List Nat), s.all (· = 48) = true → decVal s = 0 ∧ AllDigits s
  | [], _ => ⟨rfl, allDigits_nil⟩
  | c :: cs, h => by
    simp only [List.all_cons, Bool.and_eq_true, decide_eq_true_eq] at h
    obtain ⟨i1, i2⟩ := decVal_zeros cs h.2
    exact ⟨by simp [decVal, h.1, i1], allDigits_cons.2 ⟨by rw [h.1]; rfl, i2⟩⟩

/-- `detail::to_bigint`: a non-empty digit string becomes exactly its decimal value, as a normal word list;
    the sign flag is only ever set when asked for -/
theorem ofDecimalDigits_ok (neg : Bool) (s : List Nat) (hne : s ≠ []) (h : AllDigits s) :
    ∃ b, ofDecimalDigits neg s = some b ∧ val b.mag = decVal s ∧ Words b.mag ∧ (b.neg = true → neg = true) ∧
      (b.neg = neg ∨ decVal s = 0) := by
  unfold ofDecimalDigits
  rw [if_neg hne]
  by_cases hz : s.all (· = 48) = true
  · rw [if_pos hz]
    exact ⟨ofWord 0, rfl, by simp [ofWord, val, (decVal_zeros s hz).1], by intro z hz; simp [ofWord] at hz, by simp [ofWord], Or.inr (decVal_zeros s hz).1⟩
  · rw [if_neg hz]
    obtain ⟨b, b1, b2, b3, b4⟩ := ofDecimalLoop_ok s (ofWord 0) h rfl (by intro z hz; simp [ofWord] at hz)
    rw [b1]
    refine ⟨_, rfl, ?_, b3, fun h => h, Or.inl rfl⟩
    simp only [b4]
    simp [ofWord, val]

/-- value of a byte list, most significant byte first -/
def beVal : List Nat → Nat
  | [] => 0
  | b :: bs => b * 256 ^ bs.length + beVal bs

theorem fromBytesLoop_ok : ∀ (s : List Nat) (v : Big), (∀ b ∈ s, b < 256) → v.neg = false → Words v.mag →
    (fromBytesLoop s v).neg = false ∧ Words (fromBytesLoop s v).mag ∧
      val (fromBytesLoop s v).mag = val v.mag * 256 ^ s.length + beVal s
  | [], v, _, hv, hw => ⟨hv, hw, by simp [fromBytesLoop, beVal]⟩
  | c :: cs, v, h, hv, hw => by
    have hc := h c (by simp)
    obtain ⟨p1, p2, p3⟩ := pushDigit_spec 256 c (by unfold B; omega) (by unfold B; omega) v hv hw
    obtain ⟨b2, b3, b4⟩ := fromBytesLoop_ok cs (pushDigit 256 v c) (fun x hx => h x (by simp [hx])) p1 p2
    simp only [fromBytesLoop]
    refine ⟨b2, b3, ?_⟩
    rw [b4, p3]
    simp only [beVal, List.length_cons, Nat.pow_succ]
    rw [Nat.add_mul, Nat.mul_assoc, Nat.mul_comm 256]
    omega

theorem fromBytesBE_val (sg : Int) (s : List Nat) (h : ∀ b ∈ s, b < 256) :
    val (fromBytesBE sg s).mag = beVal s ∧ Words (fromBytesBE sg s).mag ∧ ((fromBytesBE sg s).neg = decide (sg < 0)) := by
  obtain ⟨b2, b3, b4⟩ := fromBytesLoop_ok s (ofWord 0) h rfl (by intro z hz; simp [ofWord] at hz)
  have hz : val (ofWord 0).mag = 0 := by simp [ofWord, val]
  rw [hz, Nat.zero_mul, Nat.zero_add] at b4
  unfold fromBytesBE
  simp only []
  by_cases hs : sg < 0
  · rw [if_pos hs]; exact ⟨b4, b3, by simp [hs]⟩
  · rw [if_neg hs]; exact ⟨b4, b3, by simp [hs, b2]⟩

/-! ### division by a divisor below 2^32 (divide :1716-1737) -/

theorem H_eq_pow : H = 2 ^ 32 := by decide

theorem or_half (a b : Nat) (hb : b < H) (ha : a < H) : ((a <<< 32) % B) ||| b = a * H + b := by
  have h1 : a <<< 32 < B := by rw [Nat.shiftLeft_eq]; unfold B H at *; omega
  rw [Nat.mod_eq_of_lt h1, ← Nat.shiftLeft_add_eq_or_of_lt (by rw [← H_eq_pow]; exact hb), Nat.shiftLeft_eq, ← H_eq_pow]

/-- one of the two half-word divisions: the running remainder `hi < d` glued above a half word `lo` -/
theorem half_div {d hi lo n : Nat} (hd : d < H) (hhi : hi < d) (hlo : lo < H) (hn : n = ((hi <<< 32) % B) ||| lo) :
    n / d * d + n % d = hi * H + lo ∧ n / d < H ∧ n % d < d := by
  rw [hn, or_half hi lo hlo (by omega)]
  refine ⟨Nat.div_add_mod' _ _, Nat.div_lt_of_lt_mul ?_, Nat.mod_lt _ (by omega)⟩
  unfold H at *
  omega

/-- the two half-word divisions `s1`, `s2` joined into one division of the word `w` under the carry `hi`.
    The equations are oriented as `omega` wants them: with the sides swapped it runs out of recursion depth on these numerals -/
theorem half_join {hi w A C r r' : Nat} (s1 : A + r = hi * H + w / H) (s2 : C + r' = r * H + w % H) :
    hi * B + w = H * A + C + r' := by
  unfold B H at *
  omega

theorem divHalf_word (d w dHi : Nat) (hd : d < H) (hw : w < B) (hdHi : dHi < d) :
    let dividend := ((dHi <<< 32) % B) ||| (w >>> 32)
    let q1 := dividend / d
    let r := dividend % d
    let dividend2 := ((r <<< 32) % B) ||| (w &&& (H - 1))
    let q2 := dividend2 / d
    let dHi' := dividend2 % d
    let qw := ((q1 <<< 32) % B) ||| q2
    dHi * B + w = qw * d + dHi' ∧ dHi' < d ∧ qw < B := by
  have hwhi : w >>> 32 = w / H := by rw [Nat.shiftRight_eq_div_pow, H_eq_pow]
  have hwlo : w &&& (H - 1) = w % H := by rw [H_eq_pow, Nat.and_two_pow_sub_one_eq_mod]
  rw [hwhi, hwlo]
  intro dividend q1 r dividend2 q2 dHi' qw
  obtain ⟨s1, hq1, hr⟩ : q1 * d + r = dHi * H + w / H ∧ q1 < H ∧ r < d :=
    half_div hd hdHi (by unfold B H at *; omega) rfl
  obtain ⟨s2, hq2, hdHi'⟩ : q2 * d + dHi' = r * H + w % H ∧ q2 < H ∧ dHi' < d :=
    half_div hd hr (Nat.mod_lt _ (by unfold H; omega)) rfl
  have e : qw = q1 * H + q2 := or_half q1 q2 hq2 hq1
  have e' : qw * d = H * (q1 * d) + q2 * d := by rw [e]; grind
  rw [e']
  exact ⟨half_join s1 s2, hdHi', by rw [e]; unfold B H at *; omega⟩

/-- value of a word list written most significant word first (`divHalfLoop` runs over the reversed magnitude) -/
def valM : List Nat → Nat
  | [] => 0
  | w :: ws => w * B ^ ws.length + valM ws

theorem valM_eq : ∀ (ws : List Nat), valM ws = val ws.reverse
  | [] => rfl
  | w :: ws => by
    rw [List.reverse_cons, val_append, val_one, List.length_reverse, valM, valM_eq ws, Nat.mul_comm]; omega

theorem divHalf_arith (dHi w qw d dHi' P Vs Vr r2 Bv : Nat) (hw : dHi * Bv + w = qw * d + dHi')
    (ih : dHi' * P + Vs = Vr * d + r2) : dHi * (P * Bv) + (w * P + Vs) = (qw * P + Vr) * d + r2 := by
  calc dHi * (P * Bv) + (w * P + Vs)
      = (dHi * Bv + w) * P + Vs := by rw [Nat.add_mul, Nat.mul_assoc, Nat.mul_comm Bv P, Nat.add_assoc]
    _ = qw * d * P + (dHi' * P + Vs) := by rw [hw, Nat.add_mul, Nat.add_assoc]
    _ = (qw * P + Vr) * d + r2 := by rw [ih, Nat.add_mul, Nat.mul_right_comm, Nat.add_assoc]

theorem divHalfLoop_spec (d : Nat) (hd : d < H) : ∀ (ws : List Nat) (dHi : Nat), dHi < d → Words ws →
    dHi * B ^ ws.length + valM ws = valM (divHalfLoop d ws dHi).1 * d + (divHalfLoop d ws dHi).2 ∧
      (divHalfLoop d ws dHi).2 < d ∧ Words (divHalfLoop d ws dHi).1 ∧ (divHalfLoop d ws dHi).1.length = ws.length
  | [], dHi, h, _ => by
    refine ⟨by simp [divHalfLoop, valM], by simpa [divHalfLoop] using h, ?_, rfl⟩
    intro z hz; simp [divHalfLoop] at hz
  | w :: ws, dHi, h, hw => by
    have hword := divHalf_word d w dHi hd hw.head h
    simp only [] at hword
    obtain ⟨w1, w2, w3⟩ := hword
    simp only [divHalfLoop]
    obtain ⟨i1, i2, i3, i4⟩ := divHalfLoop_spec d hd ws _ w2 hw.tail
    refine ⟨?_, i2, ?_, by simp [i4]⟩
    · simp only [valM, List.length_cons, Nat.pow_succ, i4]
      exact divHalf_arith _ _ _ _ _ _ _ _ _ _ w1 i1
    · exact i3.cons w3

theorem val_ofWord (w : Nat) : val (ofWord w).mag = w := by
  unfold ofWord
  by_cases h : w = 0
  · simp [h, val]
  · simp [h, val]

theorem words_ofWord (w : Nat) (h : w < B) : Words (ofWord w).mag := by
  unfold ofWord
  intro z hz
  by_cases h0 : w = 0
  · simp [h0] at hz
  · simp [h0] at hz; omega

theorem headD_ofWord (w : Nat) : (ofWord w).mag.headD 0 = w := by
  unfold ofWord
  by_cases h : w = 0
  · simp [h]
  · simp [h]

theorem words_reverse {x : List Nat} (h : Words x) : Words x.reverse := fun z hz => h z (List.mem_reverse.1 hz)

/-- `divide` by a one-word denominator, on the three modelled exits: `num = quot * d + rem`, and `rem < d`
    unless the `num < denom` exit was taken (where `rem = num`) -/
theorem divWord_spec (x : List Nat) (d : Nat) (hx : Words x) (hd0 : 0 < d) (q r : List Nat)
    (h : divWord x d = some (q, r)) :
    val x = val q * d + val r ∧ Words q ∧ (¬ cmpMag x [d] < 0 → val r < d ∧ r.headD 0 = val r) := by
  unfold divWord at h
  by_cases hc : cmpMag x [d] < 0
  · rw [if_pos hc] at h
    injection h with h; injection h with h1 h2
    subst h1; subst h2
    exact ⟨by simp [val], by intro z hz; simp at hz, fun hn => absurd hc hn⟩
  · rw [if_neg hc] at h
    split at h
    · rename_i a
      injection h with h; injection h with h1 h2
      subst h1; subst h2
      rw [val_ofWord, val_ofWord, val_one]
      refine ⟨?_, words_ofWord _ ?_, fun _ => ⟨Nat.mod_lt _ hd0, by rw [headD_ofWord]⟩⟩
      · have := Nat.div_add_mod a d; rw [Nat.mul_comm] at this; omega
      · exact Nat.lt_of_le_of_lt (Nat.div_le_self _ _) hx.head
    · by_cases hh : d / H = 0
      · rw [if_pos hh] at h
        injection h with h; injection h with h1 h2
        subst h1; subst h2
        have hdH : d < H := by
          rcases Nat.lt_or_ge d H with h | h
          · exact h
          · have := Nat.div_pos h (by unfold H; omega); omega
        obtain ⟨s1, s2, s3, s4⟩ := divHalfLoop_spec d hdH x.reverse 0 hd0 (words_reverse hx)
        rw [Nat.zero_mul, Nat.zero_add, valM_eq, valM_eq, List.reverse_reverse] at s1
        rw [stripHigh_val, val_ofWord]
        exact ⟨s1, stripHigh_words (words_reverse s3), fun _ => ⟨s2, by rw [headD_ofWord]⟩⟩
      · rw [if_neg hh] at h; exact absurd h (by simp)

theorem divWord_some (x : List Nat) (d : Nat) (hh : d / H = 0) : ∃ q r, divWord x d = some (q, r) := by
  unfold divWord
  by_cases hc : cmpMag x [d] < 0
  · rw [if_pos hc]; exact ⟨_, _, rfl⟩
  · rw [if_neg hc]
    split
    · exact ⟨_, _, rfl⟩
    · rw [if_pos hh]; exact ⟨_, _, rfl⟩

/-- value of a byte list, least significant byte first -/
def leVal256 : List Nat → Nat
  | [] => 0
  | b :: bs => b + 256 * leVal256 bs

theorem beVal_snoc (a : List Nat) (b : Nat) : beVal (a ++ [b]) = beVal a * 256 + b := by
  induction a with
  | nil => simp [beVal]
  | cons c cs ih =>
    simp only [List.cons_append, beVal, ih, List.length_append, List.length_cons, List.length_nil, Nat.pow_succ]
    rw [Nat.add_mul, Nat.mul_assoc]
    omega

theorem beVal_reverse : ∀ (l : List Nat), beVal l.reverse = leVal256 l
  | [] => rfl
  | b :: bs => by rw [List.reverse_cons, beVal_snoc, beVal_reverse bs, leVal256]; omega

theorem cmpMag_one (a d : Nat) : cmpMag [a] [d] < 0 ↔ a < d := by
  simp only [cmpMag, List.length_singleton, Nat.lt_irrefl, if_false, List.reverse_singleton, cmpWordsRev]
  split
  · omega
  · split <;> omega

theorem cmp_lt_word (n : List Nat) (d : Nat) (hd : 0 < d) (h : cmpMag n [d] < 0) : val n < d ∧ n.headD 0 = val n := by
  match n, h with
  | [], _ => exact ⟨hd, rfl⟩
  | [a], h => rw [val_one]; exact ⟨(cmpMag_one a d).1 h, rfl⟩
  | _ :: _ :: _, h => simp [cmpMag] at h

theorem toBytesLoop_spec : ∀ (f : Nat) (n : List Nat), Words n → val n < 256 ^ f →
    leVal256 (toBytesLoop f n) = val n ∧ ∀ b ∈ toBytesLoop f n, b < 256
  | 0, n, _, h => by
    simp at h
    exact ⟨by simp [toBytesLoop, leVal256, h], by intro b hb; simp [toBytesLoop] at hb⟩
  | f + 1, n, hw, h => by
    unfold toBytesLoop
    by_cases hc : cmpMag n [256] ≥ 0
    · rw [if_pos hc]
      obtain ⟨q, r, hqr⟩ := divWord_some n 256 (by decide)
      obtain ⟨s1, s2, s3⟩ := divWord_spec n 256 hw (by omega) q r hqr
      obtain ⟨s4, s5⟩ := s3 (by omega)
      rw [hqr]
      simp only []
      have hq : val q < 256 ^ f := by
        rw [Nat.pow_succ] at h
        have : val q * 256 < 256 ^ f * 256 := by omega
        exact Nat.lt_of_mul_lt_mul_right this
      obtain ⟨i1, i2⟩ := toBytesLoop_spec f q s2 hq
      refine ⟨?_, ?_⟩
      · rw [leVal256, i1, s5, Nat.mod_eq_of_lt s4]; omega
      · intro b hb
        rcases List.mem_cons.1 hb with e | e
        · rw [e]; exact Nat.mod_lt _ (by omega)
        · exact i2 b e
    · rw [if_neg hc]
      obtain ⟨c1, c2⟩ := cmp_lt_word n 256 (by omega) (by omega)
      refine ⟨by rw [leVal256, leVal256, c2, Nat.mod_eq_of_lt c1]; omega, ?_⟩
      intro b hb
      simp at hb
      rw [hb]; exact Nat.mod_lt _ (by omega)

theorem B_eq_256 : B = 256 ^ 8 := by decide

/-- `write_bytes_be`: the bytes are the big-endian base-256 digits of the magnitude -/
theorem toBytesBE_val (a : Big) (hw : Words a.mag) :
    beVal (toBytesBE a).2 = val a.mag ∧ ∀ b ∈ (toBytesBE a).2, b < 256 := by
  have hlt : val a.mag < 256 ^ (8 * a.mag.length + 1) := by
    have := val_lt hw
    rw [B_eq_256, ← Nat.pow_mul] at this
    have h2 : 256 ^ (8 * a.mag.length) ≤ 256 ^ (8 * a.mag.length + 1) := Nat.pow_le_pow_right (by omega) (by omega)
    omega
  obtain ⟨s1, s2⟩ := toBytesLoop_spec _ a.mag hw hlt
  unfold toBytesBE
  simp only []
  exact ⟨by rw [beVal_reverse, s1], fun b hb => s2 b (List.mem_reverse.1 hb)⟩

end BigInt
end Model
end JV
