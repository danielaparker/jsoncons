/-
  JV.Proofs.JsonParserComplete — the parser model accepts every text the RFC 8259 reference accepts under flags the parser's
  options cover (`Rel`: the same nesting limit, trailing commas and comments only if the parser has them) and reports the events
  of the value the reference assigns. The reference's recursion (`parseValue` / `parseElems` / `parseMembers`) is first read off
  as productions (`ValueCase`, `parseValue_cases`, `parseElems_cases`, `parseMembers_cases`); the forward simulation is an
  induction on its fuel over those.
-/
import JV.Proofs.JsonParserCompleteNum
import JV.Proofs.JsonParserCompleteStr
namespace JV
namespace Model
namespace JsonParser
open Spec.Rfc8259 (JT Flags parseValue parseElems parseMembers parseText parseString parseNumber skipWs startsWith isWs)

/-- the productions by which `parseValue` at fuel `fuel + 1` gives `s` the value `v` and leaves `r` -/
inductive ValueCase (fl : Flags) (fuel n : Nat) : Bytes → JT → Bytes → Prop
  | obj (cs : Bytes) {w : Bytes} {ms : List (Bytes × JT)} {r : Bytes} (hd : ¬ n + 1 > fl.maxDepth)
      (hw : skipWs fl.comments (cs.length + 1) cs = some w)
      (hb : w = 125 :: r ∧ ms = [] ∨ parseMembers fl fuel (n + 1) w = some (ms, r)) : ValueCase fl fuel n (123 :: cs) (.obj ms) r
  | arr (cs : Bytes) {w : Bytes} {xs : List JT} {r : Bytes} (hd : ¬ n + 1 > fl.maxDepth)
      (hw : skipWs fl.comments (cs.length + 1) cs = some w)
      (hb : w = 93 :: r ∧ xs = [] ∨ parseElems fl fuel (n + 1) w = some (xs, r)) : ValueCase fl fuel n (91 :: cs) (.arr xs) r
  | str {s b r : Bytes} (hp : parseString s = some (b, r)) : ValueCase fl fuel n s (.str b) r
  | true (r : Bytes) : ValueCase fl fuel n (116 :: 114 :: 117 :: 101 :: r) (.bool true) r
  | false (r : Bytes) : ValueCase fl fuel n (102 :: 97 :: 108 :: 115 :: 101 :: r) (.bool false) r
  | null (r : Bytes) : ValueCase fl fuel n (110 :: 117 :: 108 :: 108 :: r) .null r
  | num {c : Nat} {cs lit r : Bytes} (hp : parseNumber (c :: cs) = some (lit, r)) : ValueCase fl fuel n (c :: cs) (.num lit) r

theorem parseValue_cases {fl : Flags} {fuel n : Nat} {s : Bytes} {v : JT} {r : Bytes}
    (h : parseValue fl (fuel + 1) n s = some (v, r)) : ValueCase fl fuel n s v r := by
  cases s with
  | nil => simp [parseValue] at h
  | cons c cs =>
  simp only [parseValue] at h
  by_cases h123 : c = 123
  · subst h123
    rw [if_pos rfl] at h
    by_cases hd : n + 1 > fl.maxDepth
    · rw [if_pos hd] at h; cases h
    rw [if_neg hd] at h
    split at h
    · cases h
    · rename_i rest hw
      obtain ⟨rfl, rfl⟩ := Prod.mk.inj (Option.some.inj h)
      exact .obj cs hd hw (.inl ⟨rfl, rfl⟩)
    · rename_i w _ hw
      obtain ⟨⟨ms, r'⟩, hm, hh⟩ := Option.map_eq_some_iff.1 h
      obtain ⟨rfl, rfl⟩ := Prod.mk.inj hh
      exact .obj cs hd hw (.inr hm)
  rw [if_neg h123] at h
  by_cases h91 : c = 91
  · subst h91
    rw [if_pos rfl] at h
    by_cases hd : n + 1 > fl.maxDepth
    · rw [if_pos hd] at h; cases h
    rw [if_neg hd] at h
    split at h
    · cases h
    · rename_i rest hw
      obtain ⟨rfl, rfl⟩ := Prod.mk.inj (Option.some.inj h)
      exact .arr cs hd hw (.inl ⟨rfl, rfl⟩)
    · rename_i w _ hw
      obtain ⟨⟨xs, r'⟩, hm, hh⟩ := Option.map_eq_some_iff.1 h
      obtain ⟨rfl, rfl⟩ := Prod.mk.inj hh
      exact .arr cs hd hw (.inr hm)
  rw [if_neg h91] at h
  by_cases h34 : c = 34
  · rw [if_pos h34] at h
    obtain ⟨⟨b, r'⟩, hp, hh⟩ := Option.map_eq_some_iff.1 h
    obtain ⟨rfl, rfl⟩ := Prod.mk.inj hh
    exact .str hp
  rw [if_neg h34] at h
  by_cases h116 : c = 116
  · subst h116
    rw [if_pos rfl] at h
    obtain ⟨r', hp, hh⟩ := Option.map_eq_some_iff.1 h
    obtain ⟨rfl, rfl⟩ := Prod.mk.inj hh
    rw [startsWith_eq _ _ _ hp]
    exact .true r'
  rw [if_neg h116] at h
  by_cases h102 : c = 102
  · subst h102
    rw [if_pos rfl] at h
    obtain ⟨r', hp, hh⟩ := Option.map_eq_some_iff.1 h
    obtain ⟨rfl, rfl⟩ := Prod.mk.inj hh
    rw [startsWith_eq _ _ _ hp]
    exact .false r'
  rw [if_neg h102] at h
  by_cases h110 : c = 110
  · subst h110
    rw [if_pos rfl] at h
    obtain ⟨r', hp, hh⟩ := Option.map_eq_some_iff.1 h
    obtain ⟨rfl, rfl⟩ := Prod.mk.inj hh
    rw [startsWith_eq _ _ _ hp]
    exact .null r'
  rw [if_neg h110] at h
  obtain ⟨⟨lit, r'⟩, hp, hh⟩ := Option.map_eq_some_iff.1 h
  obtain ⟨rfl, rfl⟩ := Prod.mk.inj hh
  exact .num hp

theorem parseElems_cases {fl : Flags} {fuel d : Nat} {s : Bytes} {xs : List JT} {r : Bytes}
    (h : parseElems fl (fuel + 1) d s = some (xs, r)) :
    ∃ v s1, parseValue fl fuel d s = some (v, s1) ∧ ∃ x t, skipWs fl.comments (s1.length + 1) s1 = some (x :: t) ∧
      (x = 93 ∧ xs = [v] ∧ r = t ∨
       x = 44 ∧ ∃ w, skipWs fl.comments (t.length + 1) t = some w ∧
        (w = 93 :: r ∧ fl.trailingComma = true ∧ xs = [v] ∨ ∃ xs', parseElems fl fuel d w = some (xs', r) ∧ xs = v :: xs')) := by
  simp only [parseElems] at h
  split at h
  · cases h
  rename_i v s1 hv
  refine ⟨v, s1, hv, ?_⟩
  split at h
  · rename_i rest hw
    obtain ⟨rfl, rfl⟩ := Prod.mk.inj (Option.some.inj h)
    exact ⟨93, rest, hw, .inl ⟨rfl, rfl, rfl⟩⟩
  · rename_i s2 hw
    refine ⟨44, s2, hw, .inr ⟨rfl, ?_⟩⟩
    split at h
    · cases h
    · rename_i rest hw2
      split at h
      · rename_i htc
        obtain ⟨rfl, rfl⟩ := Prod.mk.inj (Option.some.inj h)
        exact ⟨_, hw2, .inl ⟨rfl, htc, rfl⟩⟩
      · cases h
    · rename_i s3 _ hw2
      obtain ⟨⟨xs', r'⟩, hm, hh⟩ := Option.map_eq_some_iff.1 h
      obtain ⟨rfl, rfl⟩ := Prod.mk.inj hh
      exact ⟨s3, hw2, .inr ⟨xs', hm, rfl⟩⟩
  · cases h

theorem parseMembers_cases {fl : Flags} {fuel d : Nat} {s : Bytes} {ms : List (Bytes × JT)} {r : Bytes}
    (h : parseMembers fl (fuel + 1) d s = some (ms, r)) :
    ∃ k s1 s2 s3 v s4, parseString s = some (k, s1) ∧ skipWs fl.comments (s1.length + 1) s1 = some (58 :: s2) ∧
      skipWs fl.comments (s2.length + 1) s2 = some s3 ∧ parseValue fl fuel d s3 = some (v, s4) ∧
      ∃ x t, skipWs fl.comments (s4.length + 1) s4 = some (x :: t) ∧
      (x = 125 ∧ ms = [(k, v)] ∧ r = t ∨
       x = 44 ∧ ∃ w, skipWs fl.comments (t.length + 1) t = some w ∧
        (w = 125 :: r ∧ fl.trailingComma = true ∧ ms = [(k, v)] ∨
         ∃ ms', parseMembers fl fuel d w = some (ms', r) ∧ ms = (k, v) :: ms')) := by
  simp only [parseMembers] at h
  split at h
  · cases h
  rename_i k s1 hk
  split at h
  · rename_i s2 hw1
    split at h
    · cases h
    rename_i s3 hw2
    split at h
    · cases h
    rename_i v s4 hv
    refine ⟨k, s1, s2, s3, v, s4, hk, hw1, hw2, hv, ?_⟩
    split at h
    · rename_i rest hw4
      obtain ⟨rfl, rfl⟩ := Prod.mk.inj (Option.some.inj h)
      exact ⟨125, rest, hw4, .inl ⟨rfl, rfl, rfl⟩⟩
    · rename_i s5 hw4
      refine ⟨44, s5, hw4, .inr ⟨rfl, ?_⟩⟩
      split at h
      · cases h
      · rename_i rest hw5
        split at h
        · rename_i htc
          obtain ⟨rfl, rfl⟩ := Prod.mk.inj (Option.some.inj h)
          exact ⟨_, hw5, .inl ⟨rfl, htc, rfl⟩⟩
        · cases h
      · rename_i s6 _ hw5
        obtain ⟨⟨ms', r'⟩, hm, hh⟩ := Option.map_eq_some_iff.1 h
        obtain ⟨rfl, rfl⟩ := Prod.mk.inj hh
        exact ⟨s6, hw5, .inr ⟨ms', hm, rfl⟩⟩
    · cases h
  · cases h

/-- `s1` has not failed; `evs` are the events added between `s0` and `s1`, modulo `noesc` -/
def Reach (cfg : Cfg) (s0 : St) (a : Bytes) (s1 : St) (b : Bytes) (evs : List Ev) : Prop :=
  finish (feed cfg s0 a) = finish (feed cfg s1 b) ∧ s1.err = none ∧ er s1.evs = evs.reverse ++ er s0.evs

/-- the control part of `s`: state, stack of enclosing containers, level -/
def Shape (s : St) (p : PS) (stk : List PS) (n : Nat) : Prop := s.st = p ∧ s.stack = stk ∧ s.level = n

theorem Reach.trans {cfg : Cfg} {s0 s1 s2 : St} {a b c : Bytes} {e1 e2 : List Ev}
    (h1 : Reach cfg s0 a s1 b e1) (h2 : Reach cfg s1 b s2 c e2) : Reach cfg s0 a s2 c (e1 ++ e2) :=
  ⟨h1.1.trans h2.1, h2.2.1, by rw [h2.2.2, h1.2.2]; simp⟩

theorem Reach.of_feed {cfg : Cfg} {s0 s1 : St} {a b : Bytes} {evs : List Ev} (h : feed cfg s0 a = feed cfg s1 b)
    (he : s1.err = none) (hev : er s1.evs = evs.reverse ++ er s0.evs) : Reach cfg s0 a s1 b evs :=
  ⟨by rw [h], he, hev⟩

theorem Reach.char {cfg : Cfg} {s0 s1 : St} {c : Nat} {b : Bytes} {evs : List Ev} (h : feedChar cfg s0 c = s1)
    (he : s1.err = none) (hev : er s1.evs = evs.reverse ++ er s0.evs) : Reach cfg s0 (c :: b) s1 b evs :=
  Reach.of_feed (by rw [feed_cons, h]) he hev

theorem Reach.seq {cfg : Cfg} {s0 : St} {a b c : Bytes} {e e1 e2 : List Ev} {p q : PS} {stk stk' : List PS} {n n' : Nat}
    (he : e = e1 ++ e2) (h1 : ∃ s1, Reach cfg s0 a s1 b e1 ∧ Shape s1 p stk n)
    (h2 : ∀ s1, s1.err = none → Shape s1 p stk n → ∃ s2, Reach cfg s1 b s2 c e2 ∧ Shape s2 q stk' n') :
    ∃ s2, Reach cfg s0 a s2 c e ∧ Shape s2 q stk' n' := by
  obtain ⟨s1, R1, hS1⟩ := h1
  obtain ⟨s2, R2, hS2⟩ := h2 s1 R1.2.1 hS1
  exact ⟨s2, he ▸ R1.trans R2, hS2⟩

theorem endArray_ctx (s : St) (stk : List PS) (n : Nat) (hstk : s.stack = .array :: stk) (hl : s.level = n + 1) :
    endArray s = { s with st := afterSt n, stack := stk, level := n, evs := .endArray :: s.evs } := by
  by_cases h0 : n = 0 <;> simp [endArray, hl, parent, hstk, emit, afterSt, h0]

theorem endObject_ctx (s : St) (stk : List PS) (n : Nat) (hstk : s.stack = .object :: stk) (hl : s.level = n + 1) :
    endObject s = { s with st := afterSt n, stack := stk, level := n, evs := .endObject :: s.evs } := by
  by_cases h0 : n = 0 <;> simp [endObject, hl, parent, hstk, emit, afterSt, h0]

theorem reach_beginArray (cfg : Cfg) (s0 : St) (b : Bytes) {stk : List PS} {n : Nat} (hv : vState s0.st = true) (he : s0.err = none)
    (hstk : s0.stack = stk) (hl : s0.level = n) (hd : ¬ n + 1 > cfg.maxDepth) :
    ∃ s1, Reach cfg s0 (91 :: b) s1 b [.beginArray] ∧ Shape s1 .expectValueOrEnd (.array :: stk) (n + 1) := by
  subst hstk hl
  have h := feedChar_value cfg s0 (beginArray cfg s0) 91 hv he rfl
  simp only [beginArray, hd, if_false, emit] at h
  exact ⟨_, Reach.char h he rfl, rfl, rfl, rfl⟩

theorem reach_beginObject (cfg : Cfg) (s0 : St) (b : Bytes) {stk : List PS} {n : Nat} (hv : vState s0.st = true) (he : s0.err = none)
    (hstk : s0.stack = stk) (hl : s0.level = n) (hd : ¬ n + 1 > cfg.maxDepth) :
    ∃ s1, Reach cfg s0 (123 :: b) s1 b [.beginObject] ∧ Shape s1 .expectMemberNameOrEnd (.object :: stk) (n + 1) := by
  subst hstk hl
  have h := feedChar_value cfg s0 (beginObject cfg s0) 123 hv he rfl
  simp only [beginObject, hd, if_false, emit] at h
  exact ⟨_, Reach.char h he rfl, rfl, rfl, rfl⟩

theorem reach_endArray (cfg : Cfg) (s : St) (b : Bytes) {p : PS} {stk : List PS} {n : Nat} (hS : Shape s p (.array :: stk) (n + 1))
    (hp : p = .expectCommaOrEnd ∨ p = .expectValueOrEnd ∨ p = .expectValue ∧ cfg.trailingComma = true) (he : s.err = none) :
    ∃ s1, Reach cfg s (93 :: b) s1 b [.endArray] ∧ Shape s1 (afterSt n) stk n := by
  have h : feedChar cfg s 93 = endArray s := by
    rcases hp with rfl | rfl | ⟨rfl, htc⟩
    · simp [feedChar, he, stepChar, hS.1, isCtl, spaceOrSlash]
    · simp [feedChar, he, stepChar, hS.1, isCtl, spaceOrSlash, valueStart]
    · simp [feedChar, he, stepChar, hS.1, isCtl, spaceOrSlash, valueStart, parent, hS.2.1, htc]
  rw [endArray_ctx s stk n hS.2.1 hS.2.2] at h
  exact ⟨_, Reach.char h he rfl, rfl, rfl, rfl⟩

theorem reach_endObject (cfg : Cfg) (s : St) (b : Bytes) {p : PS} {stk : List PS} {n : Nat} (hS : Shape s p (.object :: stk) (n + 1))
    (hp : p = .expectCommaOrEnd ∨ p = .expectMemberNameOrEnd ∨ p = .expectMemberName ∧ cfg.trailingComma = true) (he : s.err = none) :
    ∃ s1, Reach cfg s (125 :: b) s1 b [.endObject] ∧ Shape s1 (afterSt n) stk n := by
  have h : feedChar cfg s 125 = endObject s := by
    rcases hp with rfl | rfl | ⟨rfl, htc⟩
    · simp [feedChar, he, stepChar, hS.1, isCtl, spaceOrSlash]
    · simp [feedChar, he, stepChar, hS.1, isCtl, spaceOrSlash]
    · simp [feedChar, he, stepChar, hS.1, isCtl, spaceOrSlash, htc]
  rw [endObject_ctx s stk n hS.2.1 hS.2.2] at h
  exact ⟨_, Reach.char h he rfl, rfl, rfl, rfl⟩

theorem reach_comma_array (cfg : Cfg) (s : St) (b : Bytes) {stk : List PS} {n : Nat} (hS : Shape s .expectCommaOrEnd (.array :: stk) n)
    (he : s.err = none) : ∃ s1, Reach cfg s (44 :: b) s1 b [] ∧ Shape s1 .expectValue (.array :: stk) n := by
  have h : feedChar cfg s 44 = { s with st := .expectValue } := by
    simp [feedChar, he, stepChar, hS.1, isCtl, spaceOrSlash, beginMemberOrElement, parent, hS.2.1]
  exact ⟨_, Reach.char h he rfl, rfl, hS.2.1, hS.2.2⟩

theorem reach_comma_object (cfg : Cfg) (s : St) (b : Bytes) {stk : List PS} {n : Nat} (hS : Shape s .expectCommaOrEnd (.object :: stk) n)
    (he : s.err = none) : ∃ s1, Reach cfg s (44 :: b) s1 b [] ∧ Shape s1 .expectMemberName (.object :: stk) n := by
  have h : feedChar cfg s 44 = { s with st := .expectMemberName } := by
    simp [feedChar, he, stepChar, hS.1, isCtl, spaceOrSlash, beginMemberOrElement, parent, hS.2.1]
  exact ⟨_, Reach.char h he rfl, rfl, hS.2.1, hS.2.2⟩

theorem reach_colon (cfg : Cfg) (s : St) (b : Bytes) {stk : List PS} {n : Nat} (hS : Shape s .expectColon stk n) (he : s.err = none) :
    ∃ s1, Reach cfg s (58 :: b) s1 b [] ∧ Shape s1 .expectValue stk n := by
  have h : feedChar cfg s 58 = { s with st := .expectValue } := by
    simp [feedChar, he, stepChar, hS.1, isCtl, spaceOrSlash]
  exact ⟨_, Reach.char h he rfl, rfl, hS.2.1, hS.2.2⟩

/-- a literal, given the machine's run over its letters (`feed_true`, `feed_false`, `feed_null`) -/
theorem reach_literal (cfg : Cfg) {stk : List PS} {n : Nat} {p : PS} {e : Ev} {a r : Bytes} (s0 : St)
    (h : feed cfg s0 a = feed cfg (afterLiteral (emit { s0 with st := p } e)) r) (hee : e.eraseNoesc = e) (he : s0.err = none)
    (hstk : s0.stack = stk) (hl : s0.level = n) : ∃ s1, Reach cfg s0 a s1 r [e] ∧ Shape s1 (afterSt n) stk n := by
  rw [afterLiteral_ctx (emit { s0 with st := p } e) hl] at h
  exact ⟨_, Reach.of_feed h he (congrArg (· :: er s0.evs) hee), rfl, hstk, hl⟩

theorem reach_number (cfg : Cfg) {stk n} (hctx : Ctx stk n) (s0 : St) (c : Nat) (cs lit r : Bytes)
    (hp : parseNumber (c :: cs) = some (lit, r)) (hnd : NoDigitHead r)
    (hv : vState s0.st = true) (he : s0.err = none) (hstk : s0.stack = stk) (hl : s0.level = n) :
    ∃ s1, Reach cfg s0 (c :: cs) s1 r [numEv lit] ∧ Shape s1 (afterSt n) stk n := by
  obtain ⟨s1, e1, e2, e3, e4, e5, e6⟩ := feed_number_value cfg hctx s0 c cs lit r hp hnd hv he hstk
  refine ⟨s1, ⟨e1, e5, ?_⟩, e2, e3.trans hstk, e4.trans hl⟩
  rw [e6]; unfold numEv; split <;> rfl

theorem reach_string (cfg : Cfg) {stk n} (hctx : Ctx stk n) (s0 : St) (s b r : Bytes)
    (hp : parseString s = some (b, r)) (hv : vState s0.st = true) (he : s0.err = none) (hstk : s0.stack = stk) (hl : s0.level = n) :
    ∃ s1, Reach cfg s0 s s1 r [.str b true] ∧ Shape s1 (afterSt n) stk n := by
  obtain ⟨s1, e1, e2, e3, e4, e5, ne, e6⟩ := feed_string_value cfg hctx s0 s b r hp hv he hstk
  exact ⟨s1, Reach.of_feed e1 e5 (by rw [e6]; rfl), e2, e3.trans hstk, e4.trans hl⟩

theorem reach_key (cfg : Cfg) (s0 : St) (s b r : Bytes) {stk : List PS} {n : Nat} (hp : parseString s = some (b, r))
    (hs : s0.st = .expectMemberNameOrEnd ∨ s0.st = .expectMemberName) (he : s0.err = none) (hstk : s0.stack = stk) (hl : s0.level = n) :
    ∃ s1, Reach cfg s0 s s1 r [.key b] ∧ Shape s1 .expectColon stk n := by
  obtain ⟨s1, e1, e2, e3, e4, e5, e6⟩ := feed_string_key cfg s0 s b r hp hs he
  exact ⟨s1, Reach.of_feed e1 e5 (by rw [e6]; rfl), e2, e3.trans hstk, e4.trans hl⟩

/-- from a space-skipping state the machine runs over what `ws` (with comments iff `cm`) skips and is back in that state. Only
    for `w ≠ []`: a line comment running to the end of the input is `ws` for the reference but leaves the machine in a state
    that fails at the end of input; the callers continue with a production that needs a character. -/
def SkipOK (cfg : Cfg) (cm : Bool) : Prop :=
  ∀ (s0 : St) (a w : Bytes), wsState s0.st = true → s0.err = none → skipWs cm (a.length + 1) a = some w → w ≠ [] →
    Reach cfg s0 a s0 w []

theorem skipOK_false (cfg : Cfg) : SkipOK cfg false := by
  intro s0 a w hs he h _
  rw [skipWs_dropWs] at h
  cases h
  exact ⟨feed_dropWs cfg s0 hs he a, he, rfl⟩

/-- the parser's options `cfg` cover the reference's flags `fl` -/
structure Rel (cfg : Cfg) (fl : Flags) : Prop where
  depth : fl.maxDepth = cfg.maxDepth
  tc : fl.trailingComma = true → cfg.trailingComma = true
  skip : SkipOK cfg fl.comments

theorem Rel.skipTo {cfg : Cfg} {fl : Flags} (R : Rel cfg fl) {s0 : St} {a b w : Bytes} {evs : List Ev} {p : PS} {stk : List PS}
    {n : Nat} (hp : wsState p = true) (hw : skipWs fl.comments (b.length + 1) b = some w) (hne : w ≠ [])
    (h : ∃ s1, Reach cfg s0 a s1 b evs ∧ Shape s1 p stk n) : ∃ s1, Reach cfg s0 a s1 w evs ∧ Shape s1 p stk n := by
  obtain ⟨s1, R1, hS⟩ := h
  have RW := R.skip s1 b w (by rw [hS.1]; exact hp) R1.2.1 hw hne
  exact ⟨s1, List.append_nil evs ▸ R1.trans RW, hS⟩

/-- the completeness claim for `parseValue` at fuel `fuel` (`SimElems`, `SimMembers`: for `parseElems`, `parseMembers`): over the
    text the reference reads, the machine reaches the state after the value and reports the value's events -/
def SimValue (cfg : Cfg) (fl : Flags) (fuel : Nat) : Prop :=
  ∀ (n : Nat) (s : Bytes) (v : JT) (r : Bytes), parseValue fl fuel n s = some (v, r) → NoDigitHead r →
    ∀ (stk : List PS) (s0 : St), Ctx stk n → s0.stack = stk → s0.level = n → s0.err = none → vState s0.st = true →
      ∃ s1, Reach cfg s0 s s1 r (eventsOf v) ∧ Shape s1 (afterSt n) stk n

def SimElems (cfg : Cfg) (fl : Flags) (fuel : Nat) : Prop :=
  ∀ (n : Nat) (s : Bytes) (xs : List JT) (r : Bytes), parseElems fl fuel (n + 1) s = some (xs, r) →
    ∀ (stk : List PS) (s0 : St), Ctx stk n → s0.stack = .array :: stk → s0.level = n + 1 → s0.err = none → vState s0.st = true →
      ∃ s1, Reach cfg s0 s s1 r (eventsOfElems xs ++ [.endArray]) ∧ Shape s1 (afterSt n) stk n

def SimMembers (cfg : Cfg) (fl : Flags) (fuel : Nat) : Prop :=
  ∀ (n : Nat) (s : Bytes) (ms : List (Bytes × JT)) (r : Bytes), parseMembers fl fuel (n + 1) s = some (ms, r) →
    ∀ (stk : List PS) (s0 : St), Ctx stk n → s0.stack = .object :: stk → s0.level = n + 1 → s0.err = none →
      (s0.st = .expectMemberNameOrEnd ∨ s0.st = .expectMemberName) →
      ∃ s1, Reach cfg s0 s s1 r (eventsOfMembers ms ++ [.endObject]) ∧ Shape s1 (afterSt n) stk n

def SimAt (cfg : Cfg) (fl : Flags) (fuel : Nat) : Prop := SimValue cfg fl fuel ∧ SimElems cfg fl fuel ∧ SimMembers cfg fl fuel

theorem sim_value (cfg : Cfg) (fl : Flags) (R : Rel cfg fl) (fuel : Nat) (ih : SimAt cfg fl fuel) : SimValue cfg fl (fuel + 1) := by
  obtain ⟨_, ihE, ihM⟩ := ih
  intro n s v r h hnd stk s0 hctx hstk hlvl he hvs
  cases parseValue_cases h with
  | @obj cs w ms _ hd hw hb =>
    have hB := reach_beginObject cfg s0 cs hvs he hstk hlvl (R.depth ▸ hd)
    rcases hb with ⟨rfl, rfl⟩ | hm
    · exact Reach.seq (by simp [eventsOf, eventsOfMembers]) (R.skipTo rfl hw (by simp) hB) fun sB heB hS =>
        reach_endObject cfg sB r hS (.inr (.inl rfl)) heB
    · have hne : w ≠ [] := by rintro rfl; rw [parseMembers_nil] at hm; cases hm
      exact Reach.seq (by simp [eventsOf]) (R.skipTo rfl hw hne hB) fun sB heB hS =>
        ihM n w ms r hm stk sB hctx hS.2.1 hS.2.2 heB (Or.inl hS.1)
  | @arr cs w xs _ hd hw hb =>
    have hB := reach_beginArray cfg s0 cs hvs he hstk hlvl (R.depth ▸ hd)
    rcases hb with ⟨rfl, rfl⟩ | hm
    · exact Reach.seq (by simp [eventsOf, eventsOfElems]) (R.skipTo rfl hw (by simp) hB) fun sB heB hS =>
        reach_endArray cfg sB r hS (.inr (.inl rfl)) heB
    · have hne : w ≠ [] := by rintro rfl; rw [parseElems_nil] at hm; cases hm
      exact Reach.seq (by simp [eventsOf]) (R.skipTo rfl hw hne hB) fun sB heB hS =>
        ihE n w xs r hm stk sB hctx hS.2.1 hS.2.2 heB (by rw [hS.1]; rfl)
  | @str _ b _ hp => exact reach_string cfg hctx s0 s b r hp hvs he hstk hlvl
  | true => exact reach_literal cfg s0 (feed_true cfg s0 r hvs he) rfl he hstk hlvl
  | false => exact reach_literal cfg s0 (feed_false cfg s0 r hvs he) rfl he hstk hlvl
  | null => exact reach_literal cfg s0 (feed_null cfg s0 r hvs he) rfl he hstk hlvl
  | @num c cs lit _ hp => exact reach_number cfg hctx s0 c cs lit r hp hnd hvs he hstk hlvl

theorem sim_elems (cfg : Cfg) (fl : Flags) (R : Rel cfg fl) (fuel : Nat) (ih : SimAt cfg fl fuel) : SimElems cfg fl (fuel + 1) := by
  obtain ⟨ihV, ihE, _⟩ := ih
  intro n s xs r h stk s0 hctx hstk hlvl he hvs
  obtain ⟨v, s1, hv, x, t, hw, hx⟩ := parseElems_cases h
  have hxd : isDigit x = false := by rcases hx with ⟨rfl, _⟩ | ⟨rfl, _⟩ <;> rfl
  have hV : ∃ sV, Reach cfg s0 s sV (x :: t) (eventsOf v) ∧ Shape sV .expectCommaOrEnd (.array :: stk) (n + 1) :=
    R.skipTo rfl hw (by simp) (ihV (n + 1) s v s1 hv (noDigitHead_of_skipWs _ _ _ _ hw (noDigitHead_cons x t hxd))
      (.array :: stk) s0 (Ctx.arr hctx) hstk hlvl he hvs)
  rcases hx with ⟨rfl, rfl, rfl⟩ | ⟨rfl, w, hw2, hx2⟩
  · exact Reach.seq (by simp [eventsOfElems]) hV fun sV heV hS => reach_endArray cfg sV r hS (.inl rfl) heV
  have hC : ∃ sC, Reach cfg s0 s sC t (eventsOf v) ∧ Shape sC .expectValue (.array :: stk) (n + 1) :=
    Reach.seq (List.append_nil _).symm hV fun sV heV hS => reach_comma_array cfg sV t hS heV
  rcases hx2 with ⟨rfl, htc, rfl⟩ | ⟨xs', hm, rfl⟩
  · exact Reach.seq (by simp [eventsOfElems]) (R.skipTo rfl hw2 (by simp) hC) fun sC heC hS =>
      reach_endArray cfg sC r hS (.inr (.inr ⟨rfl, R.tc htc⟩)) heC
  · have hne : w ≠ [] := by rintro rfl; rw [parseElems_nil] at hm; cases hm
    exact Reach.seq (by simp [eventsOfElems]) (R.skipTo rfl hw2 hne hC) fun sC heC hS =>
      ihE n w xs' r hm stk sC hctx hS.2.1 hS.2.2 heC (by rw [hS.1]; rfl)

theorem sim_members (cfg : Cfg) (fl : Flags) (R : Rel cfg fl) (fuel : Nat) (ih : SimAt cfg fl fuel) :
    SimMembers cfg fl (fuel + 1) := by
  obtain ⟨ihV, _, ihM⟩ := ih
  intro n s ms r h stk s0 hctx hstk hlvl he hs0
  obtain ⟨k, s1, s2, s3, v, s4, hk, hw1, hw2, hv, x, t, hw4, hx⟩ := parseMembers_cases h
  have hne : s3 ≠ [] := by rintro rfl; rw [parseValue_nil] at hv; cases hv
  have hK : ∃ sK, Reach cfg s0 s sK (58 :: s2) [.key k] ∧ Shape sK .expectColon (.object :: stk) (n + 1) :=
    R.skipTo rfl hw1 (by simp) (reach_key cfg s0 s k s1 hk hs0 he hstk hlvl)
  have hC : ∃ sC, Reach cfg s0 s sC s3 [.key k] ∧ Shape sC .expectValue (.object :: stk) (n + 1) :=
    R.skipTo rfl hw2 hne (Reach.seq (List.append_nil _).symm hK fun sK heK hS => reach_colon cfg sK s2 hS heK)
  have hxd : isDigit x = false := by rcases hx with ⟨rfl, _⟩ | ⟨rfl, _⟩ <;> rfl
  have hV : ∃ sV, Reach cfg s0 s sV (x :: t) (.key k :: eventsOf v) ∧ Shape sV .expectCommaOrEnd (.object :: stk) (n + 1) :=
    R.skipTo rfl hw4 (by simp) (Reach.seq rfl hC fun sC heC hS =>
      ihV (n + 1) s3 v s4 hv (noDigitHead_of_skipWs _ _ _ _ hw4 (noDigitHead_cons x t hxd))
        (.object :: stk) sC (Ctx.obj hctx) hS.2.1 hS.2.2 heC (by rw [hS.1]; rfl))
  rcases hx with ⟨rfl, rfl, rfl⟩ | ⟨rfl, w, hw5, hx5⟩
  · exact Reach.seq (by simp [eventsOfMembers]) hV fun sV heV hS => reach_endObject cfg sV r hS (.inl rfl) heV
  have hD : ∃ sD, Reach cfg s0 s sD t (.key k :: eventsOf v) ∧ Shape sD .expectMemberName (.object :: stk) (n + 1) :=
    Reach.seq (List.append_nil _).symm hV fun sV heV hS => reach_comma_object cfg sV t hS heV
  rcases hx5 with ⟨rfl, htc, rfl⟩ | ⟨ms', hm, rfl⟩
  · exact Reach.seq (by simp [eventsOfMembers]) (R.skipTo rfl hw5 (by simp) hD) fun sD heD hS =>
      reach_endObject cfg sD r hS (.inr (.inr ⟨rfl, R.tc htc⟩)) heD
  · have hne5 : w ≠ [] := by rintro rfl; rw [parseMembers_nil] at hm; cases hm
    exact Reach.seq (by simp [eventsOfMembers]) (R.skipTo rfl hw5 hne5 hD) fun sD heD hS =>
      ihM n w ms' r hm stk sD hctx hS.2.1 hS.2.2 heD (Or.inr hS.1)

theorem simAt (cfg : Cfg) (fl : Flags) (R : Rel cfg fl) : ∀ fuel, SimAt cfg fl fuel
  | 0 => ⟨fun _ _ _ _ h => by simp [parseValue] at h, fun _ _ _ _ h => by simp [parseElems] at h,
      fun _ _ _ _ h => by simp [parseMembers] at h⟩
  | fuel + 1 => ⟨sim_value cfg fl R fuel (simAt cfg fl R fuel), sim_elems cfg fl R fuel (simAt cfg fl R fuel),
      sim_members cfg fl R fuel (simAt cfg fl R fuel)⟩

theorem run_complete_plain (cfg : Cfg) (fl : Flags) (R : Rel cfg fl) (bs : Bytes) (v : JT)
    (h : parseTextPlainTail fl bs = some v) :
    accepted (run cfg bs) = true ∧ er (run cfg bs).evs.reverse = eventsOf v := by
  unfold parseTextPlainTail at h
  split at h
  · cases h
  rename_i s1 h1
  split at h
  · cases h
  rename_i v' s2 h2
  split at h
  case isFalse => cases h
  rename_i h3
  cases h
  have RW := R.skip init bs s1 rfl rfl h1 (by intro e; rw [e, parseValue_nil] at h2; cases h2)
  obtain ⟨sV, RV, hV1, _, _⟩ := (simAt cfg fl R _).1 0 s1 v s2 h2
    (noDigitHead_of_dropWs s2 (by rw [h3]; exact noDigitHead_nil)) [.root] init Ctx.root rfl rfl rfl rfl
  have R' := RW.trans RV
  obtain ⟨a1, a2⟩ := finish_feed_ws_accept cfg s2 sV (Or.inl hV1) RV.2.1 h3
  have hrun : run cfg bs = finish (feed cfg sV s2) := R'.1
  rw [hrun]
  refine ⟨a1, ?_⟩
  rw [a2]
  have := R'.2.2
  simp only [init, er, List.map_nil, List.append_nil, List.nil_append] at this
  simp only [er, List.map_reverse, this, List.reverse_reverse]

theorem run_complete (cfg : Cfg) (bs : Bytes) (v : JT) (h : parseText (strictFlags cfg) bs = some v) :
    accepted (run cfg bs) = true ∧ er (run cfg bs).evs.reverse = eventsOf v :=
  run_complete_plain cfg (strictFlags cfg) ⟨rfl, nofun, skipOK_false cfg⟩ bs v ((parseTextPlainTail_nc _ rfl bs).trans h)

theorem run_complete_tc (cfg : Cfg) (bs : Bytes) (v : JT) (h : parseText (tcFlags cfg) bs = some v) :
    accepted (run cfg bs) = true ∧ er (run cfg bs).evs.reverse = eventsOf v :=
  run_complete_plain cfg (tcFlags cfg) ⟨rfl, id, skipOK_false cfg⟩ bs v ((parseTextPlainTail_nc _ rfl bs).trans h)

end JsonParser
end Model
end JV
