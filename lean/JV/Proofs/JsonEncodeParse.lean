/-
  JV.Proofs.JsonEncodeParse — well-formed values (what the round trip is claimed for), their depth and the fuel the RFC 8259
  reference parser needs for them; how the parser reads the scalars the encoders write; the compact text is long enough to
  pay for the fuel; number texts of well-formed values contain no white space.
-/
import JV.Proofs.JsonEncodeStrip
import JV.Proofs.JsonNumberText
namespace JV
namespace Model
namespace JsonEncode
open Spec.Rfc8259

mutual
  def wf : JT → Bool
    | .num lit => decide (parseNumber lit = some (lit, []))
    | .str s => validUtf8 s
    | .arr xs => wfList xs
    | .obj ms => wfMembers ms
    | _ => true
  def wfList : List JT → Bool
    | [] => true
    | x :: xs => wf x && wfList xs
  def wfMembers : List (Bytes × JT) → Bool
    | [] => true
    | (k, x) :: ms => validUtf8 k && wf x && wfMembers ms
end

def WF (v : JT) : Prop := wf v = true

instance (v : JT) : Decidable (WF v) := by unfold WF; infer_instance

mutual
  def depth : JT → Nat
    | .arr xs => 1 + depthList xs
    | .obj ms => 1 + depthMembers ms
    | _ => 0
  def depthList : List JT → Nat
    | [] => 0
    | x :: xs => max (depth x) (depthList xs)
  def depthMembers : List (Bytes × JT) → Nat
    | [] => 0
    | (_, x) :: ms => max (depth x) (depthMembers ms)
end

mutual
  /-- fuel that suffices for the reference parser to read the value back -/
  def need : JT → Nat
    | .arr xs => 1 + needList xs
    | .obj ms => 1 + needMembers ms
    | _ => 1
  def needList : List JT → Nat
    | [] => 0
    | x :: xs => 1 + max (need x) (needList xs)
  def needMembers : List (Bytes × JT) → Nat
    | [] => 0
    | (_, x) :: ms => 1 + max (need x) (needMembers ms)
end

/-- a byte at which `ws` stops and which does not close a container -/
def Start (c : Nat) : Prop := isWs c = false ∧ c ≠ 47 ∧ c ≠ 93 ∧ c ≠ 125

instance (c : Nat) : Decidable (Start c) := by unfold Start; infer_instance

theorem wfList_cons {x : JT} {xs : List JT} : wfList (x :: xs) = true ↔ WF x ∧ wfList xs = true := by
  simp [wfList, WF]

theorem wfMembers_cons {k : Bytes} {x : JT} {ms : List (Bytes × JT)} :
    wfMembers ((k, x) :: ms) = true ↔ validUtf8 k = true ∧ WF x ∧ wfMembers ms = true := by
  simp [wfMembers, WF, and_assoc]

theorem wf_num {lit : Bytes} : WF (.num lit) ↔ parseNumber lit = some (lit, []) := by
  simp [WF, wf]

theorem need_pos : ∀ v : JT, 0 < need v := by
  intro v; cases v <;> simp only [need] <;> omega

theorem skipWs_nil (cm : Bool) (fuel : Nat) : skipWs cm fuel [] = some [] := by
  cases fuel <;> simp [skipWs]

theorem skipWs_stay (cm : Bool) (fuel c : Nat) (cs : Bytes) (h1 : isWs c = false) (h2 : c ≠ 47) :
    skipWs cm (fuel + 1) (c :: cs) = some (c :: cs) := by
  simp [skipWs, h1, h2]

theorem parseString_strLit (sol : Bool) (s rest : Bytes) (hv : validUtf8 s = true) :
    parseString (strLit sol s ++ rest) = some (s, rest) := by
  rw [strLit_eq]
  simp only [List.cons_append, List.append_assoc, List.nil_append, parseString]
  rw [JsonEscape.escaped_reads_back sol s rest _ (by simp)]
  simp [hv]

/-- a number text starts with '-' or a digit: none of the bytes the parser dispatches on before numbers -/
theorem num_head_start {c : Nat} (hc : c = 45 ∨ isDigit c = true) :
    Start c ∧ c ≠ 123 ∧ c ≠ 91 ∧ c ≠ 34 ∧ c ≠ 116 ∧ c ≠ 102 ∧ c ≠ 110 := by
  rcases hc with rfl | hc
  · decide
  · simp only [isDigit, Bool.and_eq_true, decide_eq_true_eq] at hc
    simp only [Start, isWs, Bool.or_eq_false_iff, decide_eq_false_iff_not]
    omega

theorem parseValue_scalar_lit (fl : Flags) (fuel d : Nat) (rest : Bytes) :
    parseValue fl (fuel + 1) d (nullLit ++ rest) = some (.null, rest) ∧
    parseValue fl (fuel + 1) d (trueLit ++ rest) = some (.bool true, rest) ∧
    parseValue fl (fuel + 1) d (falseLit ++ rest) = some (.bool false, rest) := by
  refine ⟨?_, ?_, ?_⟩ <;> simp [nullLit, trueLit, falseLit, parseValue, startsWith]

theorem parseValue_num (fl : Flags) (fuel d : Nat) (lit rest : Bytes) (h : parseNumber lit = some (lit, [])) (hr : Stop rest) :
    parseValue fl (fuel + 1) d (lit ++ rest) = some (.num lit, rest) := by
  have ha := parseNumber_append rest hr lit lit [] h
  obtain ⟨c, cs, rfl, hc⟩ := parseNumber_head lit _ _ h
  simp only [List.cons_append] at ha ⊢
  simp [parseValue, (num_head_start hc).2, ha]

theorem parseValue_str (fl : Flags) (fuel d : Nat) (sol : Bool) (s rest : Bytes) (hv : validUtf8 s = true) :
    parseValue fl (fuel + 1) d (strLit sol s ++ rest) = some (.str s, rest) := by
  have h := parseString_strLit sol s rest hv
  obtain ⟨tl, htl⟩ : ∃ tl, strLit sol s = 34 :: tl := ⟨_, rfl⟩
  rw [htl] at h ⊢
  simp only [List.cons_append] at h ⊢
  simp [parseValue, h]

/-! the parser is run with fuel = text length + 1; for the compact text that is enough -/
mutual
  theorem need_le_length (sol : Bool) : ∀ v : JT, WF v → need v ≤ (compactS sol v).length
    | .null, _ => by simp [need, compactS, nullLit]
    | .bool true, _ => by simp [need, compactS, trueLit]
    | .bool false, _ => by simp [need, compactS, falseLit]
    | .num lit, hw => by
      obtain ⟨c, cs, rfl, _⟩ := parseNumber_head lit _ _ (wf_num.mp hw)
      simp [need, compactS]
    | .str s, _ => by simp [need, compactS, strLit]
    | .arr xs, hw => by
      have := needList_le_length sol xs true hw
      simp only [need, compactS, List.length_cons, List.length_append, List.length_nil] at this ⊢
      simp at this; omega
    | .obj ms, hw => by
      have := needMembers_le_length sol ms true hw
      simp only [need, compactS, List.length_cons, List.length_append, List.length_nil] at this ⊢
      simp at this; omega
  theorem needList_le_length (sol : Bool) : ∀ (xs : List JT) (first : Bool), wfList xs = true →
      needList xs ≤ (compactElems sol first xs).length + (if first then 1 else 0)
    | [], _, _ => by simp [needList]
    | x :: xs, first, hw => by
      obtain ⟨hwx, hwxs⟩ := wfList_cons.mp hw
      have h1 := need_le_length sol x hwx
      have h2 := needList_le_length sol xs false hwxs
      cases first <;> simp [needList, compactElems, sep] at h2 ⊢ <;> omega
  theorem needMembers_le_length (sol : Bool) : ∀ (ms : List (Bytes × JT)) (first : Bool), wfMembers ms = true →
      needMembers ms ≤ (compactMembers sol first ms).length + (if first then 1 else 0)
    | [], _, _ => by simp [needMembers]
    | (k, x) :: ms, first, hw => by
      obtain ⟨_, hwx, hwms⟩ := wfMembers_cons.mp hw
      have h1 := need_le_length sol x hwx
      have h2 := needMembers_le_length sol ms false hwms
      cases first <;> simp [needMembers, compactMembers, sep] at h2 ⊢ <;> omega
end

mutual
  theorem wf_plainNums : ∀ v : JT, wf v = true → plainNums v = true
    | .null, _ => rfl
    | .bool _, _ => rfl
    | .num lit, h => by
      simp only [plainNums, List.all_eq_true, Bool.and_eq_true, Bool.not_eq_true', bne_iff_ne]
      intro c hc
      exact (parseNumber_chars lit lit [] (wf_num.mp h) c hc).plain
    | .str _, _ => rfl
    | .arr xs, h => wfList_plainNums xs h
    | .obj ms, h => wfMembers_plainNums ms h
  theorem wfList_plainNums : ∀ xs : List JT, wfList xs = true → plainNumsList xs = true
    | [], _ => rfl
    | x :: xs, h => by
      obtain ⟨hx, hxs⟩ := wfList_cons.mp h
      simp [plainNumsList, wf_plainNums x hx, wfList_plainNums xs hxs]
  theorem wfMembers_plainNums : ∀ ms : List (Bytes × JT), wfMembers ms = true → plainNumsMembers ms = true
    | [], _ => rfl
    | (k, x) :: ms, h => by
      obtain ⟨_, hx, hms⟩ := wfMembers_cons.mp h
      simp [plainNumsMembers, wf_plainNums x hx, wfMembers_plainNums ms hms]
end

end JsonEncode
end Model
end JV
