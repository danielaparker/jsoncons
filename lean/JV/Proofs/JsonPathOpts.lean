/-
  JV.Proofs.JsonPathOpts — the result options are functions of the plain selection: `sort` returns a sorted permutation,
  `nodups` the first occurrence of every path.
-/
import JV.Model.JsonPath
import JV.Proofs.Assoc
namespace JV
namespace Model
namespace JsonPath
open Assoc

theorem stepLt_irrefl : ∀ a : Step, stepLt a a = false
  | .name k => by simp [stepLt, keyLt_irrefl]
  | .idx i => by simp [stepLt]

theorem stepLt_trans : ∀ {a b c : Step}, stepLt a b = true → stepLt b c = true → stepLt a c = true
  | .name _, .name _, .name _, h1, h2 => by simp only [stepLt] at *; exact keyLt_trans h1 h2
  | .name _, .name _, .idx _, _, _ => by simp [stepLt]
  | .name _, .idx _, .name _, _, h2 => by simp [stepLt] at h2
  | .name _, .idx _, .idx _, _, _ => by simp [stepLt]
  | .idx _, .name _, _, h1, _ => by simp [stepLt] at h1
  | .idx _, .idx _, .name _, _, h2 => by simp [stepLt] at h2
  | .idx a, .idx b, .idx c, h1, h2 => by simp only [stepLt, decide_eq_true_eq] at *; omega

theorem stepLt_trichotomy : ∀ a b : Step, stepLt a b = true ∨ a = b ∨ stepLt b a = true
  | .name a, .name b => by
    rcases keyLt_trichotomy a b with h | h | h
    · exact Or.inl (by simpa [stepLt] using h)
    · exact Or.inr (Or.inl (by rw [h]))
    · exact Or.inr (Or.inr (by simpa [stepLt] using h))
  | .name _, .idx _ => Or.inl (by simp [stepLt])
  | .idx _, .name _ => Or.inr (Or.inr (by simp [stepLt]))
  | .idx a, .idx b => by
    simp only [stepLt, decide_eq_true_eq, Step.idx.injEq]; omega

theorem stepLt_st : SMap.StrictTotal stepLt := ⟨stepLt_irrefl, stepLt_trans, stepLt_trichotomy⟩

theorem stepLt_asymm {a b : Step} (h : stepLt a b = true) : stepLt b a = false := stepLt_st.asymm h

theorem pathLt_eq_listLt : ∀ a b : Path, pathLt a b = SMap.listLt stepLt a b
  | [], [] => rfl
  | [], _ :: _ => rfl
  | _ :: _, [] => rfl
  | x :: a, y :: b => by simp only [pathLt, SMap.listLt, pathLt_eq_listLt a b]

theorem pathLt_st : SMap.StrictTotal pathLt := by
  rw [show pathLt = SMap.listLt stepLt from funext fun a => funext (pathLt_eq_listLt a)]
  exact stepLt_st.lex

theorem pathLt_irrefl (p : Path) : pathLt p p = false := pathLt_st.irrefl p

theorem pathLt_trans {a b c : Path} (h1 : pathLt a b = true) (h2 : pathLt b c = true) : pathLt a c = true :=
  pathLt_st.trans h1 h2

theorem pathLt_trichotomy (a b : Path) : pathLt a b = true ∨ a = b ∨ pathLt b a = true := pathLt_st.tri a b

theorem pathLt_asymm {a b : Path} (h : pathLt a b = true) : pathLt b a = false := pathLt_st.asymm h

theorem pathLe_total (a b : Path) : (pathLe a b || pathLe b a) = true := by
  simp only [pathLe, Bool.or_eq_true, Bool.not_eq_true']
  cases h : pathLt b a with
  | false => exact Or.inl rfl
  | true => exact Or.inr (pathLt_asymm h)

theorem pathLe_trans {a b c : Path} (h1 : pathLe a b = true) (h2 : pathLe b c = true) : pathLe a c = true := by
  simp only [pathLe, Bool.not_eq_true'] at *
  cases h : pathLt c a with
  | false => rfl
  | true =>
    -- c < a; b is comparable with both
    rcases pathLt_trichotomy b a with hba | hba | hba
    · rw [hba] at h1; exact absurd h1 (by simp)
    · subst hba; rw [h] at h2; exact absurd h2 (by simp)
    · have := pathLt_trans h hba; rw [this] at h2; exact absurd h2 (by simp)

theorem pathLe_antisymm {a b : Path} (h1 : pathLe a b = true) (h2 : pathLe b a = true) : a = b := by
  simp only [pathLe, Bool.not_eq_true'] at *
  rcases pathLt_trichotomy a b with h | h | h
  · rw [h] at h2; exact absurd h2 (by simp)
  · exact h
  · rw [h] at h1; exact absurd h1 (by simp)

theorem sortNodes_perm (l : List Node) : (sortNodes l).Perm l := List.mergeSort_perm _ _

theorem sortNodes_sorted (l : List Node) : (sortNodes l).Pairwise (fun a b => pathLe a.1 b.1 = true) :=
  List.pairwise_mergeSort (le := fun (a b : Node) => pathLe a.1 b.1) (fun _ _ _ h1 h2 => pathLe_trans h1 h2)
    (fun a b => pathLe_total a.1 b.1) l

theorem nodups_sublist : ∀ (l : List Node) (seen : List Path), (nodups l seen).Sublist l
  | [], _ => List.Sublist.slnil
  | nd :: l, seen => by
    simp only [nodups]
    split
    · exact (nodups_sublist l seen).cons _
    · exact (nodups_sublist l _).cons_cons _

theorem nodups_not_seen : ∀ (l : List Node) (seen : List Path), ∀ nd ∈ nodups l seen, nd.1 ∉ seen
  | [], _, _, h => by simp [nodups] at h
  | x :: l, seen, nd, h => by
    simp only [nodups] at h
    split at h
    · exact nodups_not_seen l seen nd h
    · rename_i hx
      simp only [List.mem_cons] at h
      rcases h with rfl | h
      · exact hx
      · have := nodups_not_seen l (x.1 :: seen) nd h
        exact fun hm => this (List.mem_cons_of_mem _ hm)

theorem nodups_paths_nodup : ∀ (l : List Node) (seen : List Path), ((nodups l seen).map (·.1)).Nodup
  | [], _ => by simp [nodups]
  | x :: l, seen => by
    simp only [nodups]
    split
    · exact nodups_paths_nodup l seen
    · rw [List.map_cons, List.nodup_cons]
      refine ⟨?_, nodups_paths_nodup l _⟩
      intro hm
      obtain ⟨nd, hnd, he⟩ := List.mem_map.mp hm
      exact nodups_not_seen l (x.1 :: seen) nd hnd (by simp [he])

theorem nodups_keeps_paths : ∀ (l : List Node) (seen : List Path) (p : Path),
    p ∈ l.map (·.1) → p ∉ seen → p ∈ (nodups l seen).map (·.1)
  | [], _, _, h, _ => by simp at h
  | x :: l, seen, p, h, hs => by
    simp only [List.map_cons, List.mem_cons] at h
    simp only [nodups]
    split
    · next hx => exact nodups_keeps_paths l seen p (h.resolve_left fun e => hs (e ▸ hx)) hs
    · rw [List.map_cons, List.mem_cons]
      by_cases e : p = x.1
      · exact Or.inl e
      · exact Or.inr (nodups_keeps_paths l _ p (h.resolve_left e) (by simp [e, hs]))

theorem nodups_first : ∀ (l : List Node) (seen : List Path) (nd : Node), nd ∈ nodups l seen →
    ∃ l1 l2, l = l1 ++ nd :: l2 ∧ nd.1 ∉ l1.map (·.1)
  | [], _, _, h => by simp [nodups] at h
  | x :: l, seen, nd, h => by
    -- in either branch the rest is filtered against a list that holds `x.1`
    have later : ∀ seen', x.1 ∈ seen' → nd ∈ nodups l seen' → ∃ l1 l2, x :: l = l1 ++ nd :: l2 ∧ nd.1 ∉ l1.map (·.1) := by
      intro seen' hx h
      obtain ⟨l1, l2, e, hn⟩ := nodups_first l seen' nd h
      refine ⟨x :: l1, l2, by rw [e]; rfl, ?_⟩
      rw [List.map_cons, List.mem_cons, not_or]
      exact ⟨fun e' => nodups_not_seen l seen' nd h (e' ▸ hx), hn⟩
    simp only [nodups] at h
    split at h
    · next hx => exact later seen hx h
    · rcases List.mem_cons.1 h with rfl | h
      · exact ⟨[], l, rfl, by simp⟩
      · exact later _ List.mem_cons_self h

theorem uniqAdj_sublist : ∀ (l : List Node), (uniqAdj l).Sublist l
  | [] => List.Sublist.slnil
  | [a] => by simp [uniqAdj]
  | a :: b :: rest => by
    simp only [uniqAdj]
    split
    · exact (uniqAdj_sublist (b :: rest)).cons _
    · exact (uniqAdj_sublist (b :: rest)).cons_cons _

theorem uniqAdj_head : ∀ (a : Node) (l : List Node), ∃ h t, uniqAdj (a :: l) = h :: t ∧ h.1 = a.1
  | a, [] => ⟨a, [], by simp [uniqAdj], rfl⟩
  | a, b :: rest => by
    simp only [uniqAdj]
    split
    · rename_i e
      obtain ⟨h, t, e1, e2⟩ := uniqAdj_head b rest
      exact ⟨h, t, e1, e2.trans e.symm⟩
    · exact ⟨a, _, rfl, rfl⟩

theorem uniqAdj_nodup : ∀ (l : List Node), l.Pairwise (fun a b => pathLe a.1 b.1 = true) → ((uniqAdj l).map (·.1)).Nodup
  | [], _ => by simp [uniqAdj]
  | [a], _ => by simp [uniqAdj]
  | a :: b :: rest, hs => by
    have hs' : (b :: rest).Pairwise (fun a b => pathLe a.1 b.1 = true) := (List.pairwise_cons.mp hs).2
    simp only [uniqAdj]
    split
    · exact uniqAdj_nodup (b :: rest) hs'
    · rename_i hne
      rw [List.map_cons, List.nodup_cons]
      refine ⟨?_, uniqAdj_nodup (b :: rest) hs'⟩
      intro hm
      obtain ⟨nd, hnd, he⟩ := List.mem_map.mp hm
      have hmem : nd ∈ b :: rest := (uniqAdj_sublist (b :: rest)).subset hnd
      -- a ≤ b ≤ nd and nd.1 = a.1, so a.1 = b.1
      have hab : pathLe a.1 b.1 = true := (List.pairwise_cons.mp hs).1 b (by simp)
      have hbn : pathLe b.1 nd.1 = true := by
        rcases List.mem_cons.mp hmem with rfl | h
        · simp [pathLe, pathLt_irrefl]
        · exact (List.pairwise_cons.mp hs').1 nd h
      rw [he] at hbn
      exact hne (pathLe_antisymm hab hbn)

theorem uniqAdj_keeps_paths : ∀ (l : List Node) (p : Path), p ∈ l.map (·.1) → p ∈ (uniqAdj l).map (·.1)
  | [], _, h => by simp at h
  | [a], _, h => by simpa [uniqAdj] using h
  | a :: b :: rest, p, h => by
    simp only [uniqAdj]
    rw [List.map_cons, List.mem_cons] at h
    split
    · next e => exact uniqAdj_keeps_paths (b :: rest) p (h.elim (fun hp => by simp [hp, e]) id)
    · rw [List.map_cons, List.mem_cons]
      exact h.imp_right (uniqAdj_keeps_paths (b :: rest) p)

theorem mem_paths_uniqAdj_sortNodes (l : List Node) (p : Path) :
    p ∈ (uniqAdj (sortNodes l)).map (·.1) ↔ p ∈ l.map (·.1) :=
  ⟨fun h => ((sortNodes_perm l).map _).subset (((uniqAdj_sublist _).map _).subset h),
   fun h => uniqAdj_keeps_paths _ p (((sortNodes_perm l).map _).mem_iff.mpr h)⟩

end JsonPath
end Model
end JV
