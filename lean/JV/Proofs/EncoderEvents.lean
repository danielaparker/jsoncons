/-
  JV.Proofs.EncoderEvents — the event-driven encoder models (JV.Model.EncoderEvents) fed with the events of a value write exactly
  the bytes of the value-level encoder models (JV.Model.Cbor / Msgpack / Ubjson / Bson `encode`, each tied byte for byte to the real
  encoder by a C06 stream), and those events pass the length bookkeeping of JV.Model.EncoderLen.
-/
import JV.Model.EncoderEvents
import JV.Proofs.EncoderLen
open _root_.JV.Model.Cbor (CV)
namespace JV.Model.EncoderEvents

theorem feed_append (emit : Ev → Bytes) : ∀ (a b : List Ev), feed emit (a ++ b) = feed emit a ++ feed emit b
  | [], b => by simp [feed]
  | e :: a, b => by simp [feed, feed_append emit a b]

namespace Cbor
mutual
  theorem feed_events : ∀ (v : CV), feed emit (events v) = Model.Cbor.encode v
    | .null | .bool _ | .int _ | .dbl _ | .str _ | .bytes _ => by simp [events, feed, emit, Model.Cbor.encode]
    | .arr xs => by simp [events, feed, feed_append, emit, Model.Cbor.encode, feed_eventsList xs]
    | .map ms => by simp [events, feed, feed_append, emit, Model.Cbor.encode, feed_eventsMembers ms]
  theorem feed_eventsList : ∀ (xs : List CV), feed emit (eventsList xs) = Model.Cbor.encodeList xs
    | [] => rfl
    | x :: xs => by simp [eventsList, feed_append, Model.Cbor.encodeList, feed_events x, feed_eventsList xs]
  theorem feed_eventsMembers : ∀ (ms : List (Bytes × CV)), feed emit (eventsMembers ms) = Model.Cbor.encodeMembers ms
    | [] => rfl
    | (k, x) :: ms => by
      simp [eventsMembers, feed, feed_append, emit, Model.Cbor.encodeMembers, feed_events x, feed_eventsMembers ms]
end
end Cbor

namespace Msgpack
mutual
  theorem feed_events : ∀ (v : CV), feed emit (events v) = Model.Msgpack.encode v
    | .null | .bool _ | .int _ | .dbl _ | .str _ | .bytes _ => by simp [events, feed, emit, Model.Msgpack.encode]
    | .arr xs => by simp [events, feed, feed_append, emit, Model.Msgpack.encode, feed_eventsList xs]
    | .map ms => by simp [events, feed, feed_append, emit, Model.Msgpack.encode, feed_eventsMembers ms]
  theorem feed_eventsList : ∀ (xs : List CV), feed emit (eventsList xs) = Model.Msgpack.encodeList xs
    | [] => rfl
    | x :: xs => by simp [eventsList, feed_append, Model.Msgpack.encodeList, feed_events x, feed_eventsList xs]
  theorem feed_eventsMembers : ∀ (ms : List (Bytes × CV)), feed emit (eventsMembers ms) = Model.Msgpack.encodeMembers ms
    | [] => rfl
    | (k, x) :: ms => by
      simp [eventsMembers, feed, feed_append, emit, Model.Msgpack.encodeMembers, feed_events x, feed_eventsMembers ms]
end
end Msgpack

namespace Ubjson
mutual
  theorem feed_events : ∀ (v : CV), feed emit (events v) = Model.Ubjson.encode v
    | .null | .bool _ | .int _ | .dbl _ | .str _ | .bytes _ => by simp [events, feed, emit, Model.Ubjson.encode]
    | .arr xs => by simp [events, feed, feed_append, emit, Model.Ubjson.encode, feed_eventsList xs]
    | .map ms => by simp [events, feed, feed_append, emit, Model.Ubjson.encode, feed_eventsMembers ms]
  theorem feed_eventsList : ∀ (xs : List CV), feed emit (eventsList xs) = Model.Ubjson.encodeList xs
    | [] => rfl
    | x :: xs => by simp [eventsList, feed_append, Model.Ubjson.encodeList, feed_events x, feed_eventsList xs]
  theorem feed_eventsMembers : ∀ (ms : List (Bytes × CV)), feed emit (eventsMembers ms) = Model.Ubjson.encodeMembers ms
    | [] => rfl
    | (k, x) :: ms => by
      simp [eventsMembers, feed, feed_append, emit, Model.Ubjson.encodeMembers, feed_events x, feed_eventsMembers ms]
end
end Ubjson

mutual
  def skel : CV → EncoderLen.Tree
    | .arr xs => .arr (some xs.length) (skelList xs)
    | .map ms => .obj (some ms.length) (skelMembers ms)
    | _ => .scalar
  def skelList : List CV → List EncoderLen.Tree
    | [] => []
    | x :: xs => skel x :: skelList xs
  def skelMembers : List (Bytes × CV) → List EncoderLen.Tree
    | [] => []
    | (_, x) :: ms => skel x :: skelMembers ms
end

theorem length_skelList : ∀ (xs : List CV), (skelList xs).length = xs.length
  | [] => rfl
  | _ :: xs => by simp [skelList, length_skelList xs]
theorem length_skelMembers : ∀ (ms : List (Bytes × CV)), (skelMembers ms).length = ms.length
  | [] => rfl
  | (_, _) :: ms => by simp [skelMembers, length_skelMembers ms]

mutual
  theorem shape_events : ∀ (v : CV), (events v).map shape = EncoderLen.events (skel v)
    | .null | .bool _ | .int _ | .dbl _ | .str _ | .bytes _ => rfl
    | .arr xs => by simp [events, skel, EncoderLen.events, shape, shape_eventsList xs]
    | .map ms => by simp [events, skel, EncoderLen.events, shape, shape_eventsMembers ms]
  theorem shape_eventsList : ∀ (xs : List CV), (eventsList xs).map shape = EncoderLen.eventsList (skelList xs)
    | [] => rfl
    | x :: xs => by simp [eventsList, skelList, EncoderLen.eventsList, shape_events x, shape_eventsList xs]
  theorem shape_eventsMembers : ∀ (ms : List (Bytes × CV)), (eventsMembers ms).map shape = EncoderLen.eventsMembers (skelMembers ms)
    | [] => rfl
    | (k, x) :: ms => by simp [eventsMembers, skelMembers, EncoderLen.eventsMembers, shape, shape_events x, shape_eventsMembers ms]
end

mutual
  theorem exact_skel : ∀ (v : CV), EncoderLen.Exact (skel v)
    | .null | .bool _ | .int _ | .dbl _ | .str _ | .bytes _ => trivial
    | .arr xs => ⟨by intro n h; simp at h; rw [length_skelList]; exact h.symm, exact_skelList xs⟩
    | .map ms => ⟨by intro n h; simp at h; rw [length_skelMembers]; exact h.symm, exact_skelMembers ms⟩
  theorem exact_skelList : ∀ (xs : List CV), EncoderLen.ExactList (skelList xs)
    | [] => trivial
    | x :: xs => ⟨exact_skel x, exact_skelList xs⟩
  theorem exact_skelMembers : ∀ (ms : List (Bytes × CV)), EncoderLen.ExactList (skelMembers ms)
    | [] => trivial
    | (_, x) :: ms => ⟨exact_skel x, exact_skelMembers ms⟩
end

namespace Bson
open Model.Bson (indexName doc leBytes int32Bytes int64Bytes fitsInt32 typeCode value arrBody mapBody scalarsOK scalarsOKList scalarsOKMembers)

theorem run_append : ∀ (a b : List Ev) (st : St), run st (a ++ b) = (run st a).bind fun st' => run st' b
  | [], b, st => by simp [run]
  | e :: a, b, st => by
    simp only [List.cons_append, run]
    cases h : step st e with
    | none => simp
    | some st' => simp [run_append a b st']

theorem scalar_cons (code : Nat) (payload : Bytes) (f g : Frame) (fs : List Frame) (sink : Bytes) (h : beforeValue code f = some g) :
    scalar code payload { stack := f :: fs, sink := sink } = some { stack := { g with body := g.body ++ payload } :: fs, sink := sink } := by
  simp [scalar, h]

/-- a value that is not a container is one `scalar` step; `scalarsOK` excludes the integers and strings the encoder refuses -/
theorem run_scalar (x : CV) (st : St) (hx : scalarsOK x = true) (hc : (∀ xs, x ≠ .arr xs) ∧ ∀ ms, x ≠ .map ms) :
    run st (events x) = scalar (typeCode x) (value x) st := by
  have single : ∀ e, run st [e] = step st e := fun e => by
    simp only [run]
    cases step st e <;> rfl
  cases x with
  | arr xs => exact absurd rfl (hc.1 xs)
  | map ms => exact absurd rfl (hc.2 ms)
  | int i =>
    have hi : ¬ (i ≥ 9223372036854775808) := by simp [scalarsOK] at hx; omega
    rw [events, single]
    cases hf : fitsInt32 i <;> simp [step, typeCode, value, hi, hf]
  | str s =>
    have hv : Spec.Rfc8259.validUtf8 s = true := by simpa [scalarsOK] using hx
    rw [events, single]
    simp [step, typeCode, value, hv]
  | null | bool _ | dbl _ | bytes _ =>
    rw [events, single]
    simp [step, typeCode, value]

mutual
  theorem run_value : ∀ (x : CV) (f g : Frame) (fs : List Frame) (sink : Bytes), scalarsOK x = true →
      beforeValue (typeCode x) f = some g →
      run { stack := f :: fs, sink := sink } (events x) = some { stack := { g with body := g.body ++ value x } :: fs, sink := sink }
    | .null, f, g, fs, sink, h, hb | .bool _, f, g, fs, sink, h, hb | .int _, f, g, fs, sink, h, hb
    | .dbl _, f, g, fs, sink, h, hb | .str _, f, g, fs, sink, h, hb | .bytes _, f, g, fs, sink, h, hb => by
      rw [run_scalar _ _ h ⟨nofun, nofun⟩, scalar_cons _ _ f g fs sink hb]
    | .arr xs, f, g, fs, sink, h, hb => by
      -- the fresh frame collects `arrBody 0 xs` (`run_list`); `endC` wraps it in `doc` and appends it to the enclosing frame
      have hb' : beforeValue 4 f = some g := by simpa [typeCode] using hb
      have ih := run_list xs [] 0 none (g :: fs) sink (by simpa [scalarsOK] using h)
      simp [events, run, step, beginC, hb', run_append, ih, endC, value]
    | .map ms, f, g, fs, sink, h, hb => by
      have hb' : beforeValue 3 f = some g := by simpa [typeCode] using hb
      have ih := run_members ms [] 0 (g :: fs) sink (by simpa [scalarsOK] using h)
      simp [events, run, step, beginC, hb', run_append, ih, endC, value]
  theorem run_list : ∀ (xs : List CV) (B : Bytes) (i : Nat) (p : Option Bytes) (fs : List Frame) (sink : Bytes), scalarsOKList xs = true →
      run { stack := { isObj := false, body := B, index := i, pending := p } :: fs, sink := sink } (eventsList xs) =
        some { stack := { isObj := false, body := B ++ arrBody i xs, index := i + xs.length, pending := p } :: fs, sink := sink }
    | [], B, i, p, fs, sink, _ => by simp [eventsList, run, arrBody]
    | x :: xs, B, i, p, fs, sink, h => by
      have h' : scalarsOK x = true ∧ scalarsOKList xs = true := by simpa [scalarsOKList] using h
      have hv := run_value x { isObj := false, body := B, index := i, pending := p }
        { isObj := false, body := B ++ typeCode x :: (indexName i ++ [0]), index := i + 1, pending := p } fs sink h'.1 (by simp [beforeValue])
      have ih := run_list xs (B ++ typeCode x :: (indexName i ++ [0]) ++ value x) (i + 1) p fs sink h'.2
      simp only [eventsList, run_append, hv, Option.bind_some, ih, arrBody]
      simp [Nat.add_assoc, Nat.add_comm 1]
  theorem run_members : ∀ (ms : List (Bytes × CV)) (B : Bytes) (i : Nat) (fs : List Frame) (sink : Bytes), scalarsOKMembers ms = true →
      run { stack := { isObj := true, body := B, index := i, pending := none } :: fs, sink := sink } (eventsMembers ms) =
        some { stack := { isObj := true, body := B ++ mapBody ms, index := i, pending := none } :: fs, sink := sink }
    | [], B, i, fs, sink, _ => by simp [eventsMembers, run, mapBody]
    | (k, x) :: ms, B, i, fs, sink, h => by
      have h' : scalarsOK x = true ∧ scalarsOKMembers ms = true := by
        have h0 : (Model.Bson.nameOK k = true ∧ scalarsOK x = true) ∧ scalarsOKMembers ms = true := by simpa [scalarsOKMembers] using h
        exact ⟨h0.1.2, h0.2⟩
      have hv := run_value x { isObj := true, body := B, index := i, pending := some k }
        { isObj := true, body := B ++ typeCode x :: (k ++ [0]), index := i, pending := none } fs sink h'.1 (by simp [beforeValue])
      have ih := run_members ms (B ++ typeCode x :: (k ++ [0]) ++ value x) i fs sink h'.2
      simp only [eventsMembers, run, step, run_append, hv, Option.bind_some, ih, mapBody]
      simp
end

theorem feed_events (v : CV) (h : scalarsOK v = true) : feed (events v) = Model.Bson.encode v := by
  cases v with
  | arr xs =>
    have ih := run_list xs [] 0 none [] [] (by simpa [scalarsOK] using h)
    simp [feed, events, run, step, beginC, St.init, run_append, ih, endC, Model.Bson.encode]
  | map ms =>
    have ih := run_members ms [] 0 [] [] (by simpa [scalarsOK] using h)
    simp [feed, events, run, step, beginC, St.init, run_append, ih, endC, Model.Bson.encode]
  | null | bool _ | int _ | dbl _ | str _ | bytes _ =>
    -- a scalar root finds no open container
    simp [feed, run_scalar _ _ h ⟨nofun, nofun⟩, scalar, St.init, Model.Bson.encode]

end Bson
end JV.Model.EncoderEvents
