/-
  JV.Proofs.CborParserEquations — the readers of the cbor_parser model (JV.Model.CborParser) in equations: the argument readers through the
  reference's `readArg`, `item` by major type and the steps of the four list readers through `Res.map` / `Res.bind`. `item_ok` reads them
  backwards: a successful run delivers a leaf paid for by the bytes it consumed, or a container whose elements were read one level deeper
  from a shorter input.
-/
import JV.Model.CborParser
import JV.Proofs.CborSpec
namespace JV.Model.CborParser
open JV Spec.Cbor

theorem ite_branches {c : Prop} [Decidable c] {α : Sort _} {x u y v : α} (hx : x = u) (hy : y = v) :
    (if c then x else y) = if c then u else v := by
  rw [hx, hy]

namespace Res
variable {α β : Type}

def map (f : α → β) : Res α → Res β
  | .ok v r => .ok (f v) r
  | .fail e => .fail e

def bind (m : Res α) (k : α → Bytes → Res β) : Res β :=
  match m with
  | .ok v r => k v r
  | .fail e => .fail e

theorem map_eq_ok {f : α → β} {m : Res α} {w : β} {r : Bytes} : m.map f = .ok w r ↔ ∃ v, m = .ok v r ∧ f v = w := by
  cases m with
  | fail e => simp [map]
  | ok v s1 => simp only [map, Res.ok.injEq]; exact ⟨fun ⟨h1, h2⟩ => ⟨v, ⟨rfl, h2⟩, h1⟩, fun ⟨_, ⟨h1, h2⟩, h3⟩ => ⟨h1 ▸ h3, h2⟩⟩

theorem map_eq_fail {f : α → β} {m : Res α} {e : Fail} : m.map f = .fail e ↔ m = .fail e := by
  cases m <;> simp [map]

theorem map_map {γ : Type} (f : α → β) (g : β → γ) (m : Res α) : (m.map f).map g = m.map (g ∘ f) := by
  cases m <;> rfl

theorem bind_eq_ok {m : Res α} {k : α → Bytes → Res β} {w : β} {r : Bytes} :
    m.bind k = .ok w r ↔ ∃ v s1, m = .ok v s1 ∧ k v s1 = .ok w r := by
  cases m with
  | fail e => simp [bind]
  | ok v s1 => simp only [bind, Res.ok.injEq]; exact ⟨fun h => ⟨v, s1, ⟨rfl, rfl⟩, h⟩, fun ⟨_, _, ⟨h1, h2⟩, h3⟩ => h1 ▸ h2 ▸ h3⟩

theorem bind_eq_fail {m : Res α} {k : α → Bytes → Res β} {e : Fail} :
    m.bind k = .fail e ↔ m = .fail e ∨ ∃ v s1, m = .ok v s1 ∧ k v s1 = .fail e := by
  cases m with
  | fail e => simp [bind]
  | ok v s1 =>
    simp only [bind, Res.ok.injEq, reduceCtorEq, false_or]
    exact ⟨fun h => ⟨v, s1, ⟨rfl, rfl⟩, h⟩, fun ⟨_, _, ⟨h1, h2⟩, h3⟩ => h1 ▸ h2 ▸ h3⟩

theorem ite_fail_eq_ok {c : Prop} [Decidable c] {e : Fail} {m : Res α} {w : α} {r : Bytes} :
    (if c then .fail e else m) = .ok w r ↔ ¬ c ∧ m = .ok w r := by
  by_cases h : c <;> simp [h]

end Res

theorem readBE_eq_readArg (w ai : Nat) (h : (ai = 24 ∧ w = 1) ∨ (ai = 25 ∧ w = 2) ∨ (ai = 26 ∧ w = 4) ∨ (ai = 27 ∧ w = 8)) (s : Bytes) :
    readBE w s = match readArg ai s with | some (n, r) => .ok n r | none => .fail (.err .unexpectedEof) := by
  rw [readArg_wide h, readBE, bigToNative_eq_beVal]
  by_cases hl : s.length < w <;> simp [hl]

theorem readUint64_eq (ib : Nat) (s : Bytes) :
    readUint64 (ib :: s) =
      if 28 ≤ ib % 32 then .fail (.err .unknownType)
      else match readArg (ib % 32) s with | some (n, r) => .ok n r | none => .fail (.err .unexpectedEof) := by
  rcases (by omega : ib % 32 < 24 ∨ ib % 32 = 24 ∨ ib % 32 = 25 ∨ ib % 32 = 26 ∨ ib % 32 = 27 ∨ 28 ≤ ib % 32) with h | h | h | h | h | h
  · have : ¬ 28 ≤ ib % 32 := by omega
    simp [readUint64, readArg, h, this]
  · simp [readUint64, h, readBE_eq_readArg 1 24 (by simp) s]
  · simp [readUint64, h, readBE_eq_readArg 2 25 (by simp) s]
  · simp [readUint64, h, readBE_eq_readArg 4 26 (by simp) s]
  · simp [readUint64, h, readBE_eq_readArg 8 27 (by simp) s]
  · have : ¬ ib % 32 < 24 ∧ ib % 32 ≠ 24 ∧ ib % 32 ≠ 25 ∧ ib % 32 ≠ 26 ∧ ib % 32 ≠ 27 := by omega
    simp [readUint64, h, this]

theorem readUint64_reserved (ib : Nat) (s : Bytes) (h : 28 ≤ ib % 32) : readUint64 (ib :: s) = .fail (.err .unknownType) := by
  rw [readUint64_eq, if_pos h]

theorem readUint64_no_arg (ib : Nat) (s : Bytes) (h : ib % 32 < 28) (hr : readArg (ib % 32) s = none) :
    readUint64 (ib :: s) = .fail (.err .unexpectedEof) := by
  rw [readUint64_eq, if_neg (by omega), hr]

theorem readUint64_arg (ib : Nat) (s : Bytes) {n : Nat} {s1 : Bytes} (h : ib % 32 < 28) (hr : readArg (ib % 32) s = some (n, s1)) :
    readUint64 (ib :: s) = .ok n s1 := by
  rw [readUint64_eq, if_neg (by omega), hr]

theorem readUint64_len {s : Bytes} {n : Nat} {r : Bytes} (h : readUint64 s = .ok n r) : r.length < s.length := by
  cases s with
  | nil => simp [readUint64] at h
  | cons ib s =>
    rw [readUint64_eq] at h
    split at h
    · cases h
    · cases hr : readArg (ib % 32) s with
      | none => simp [hr] at h
      | some p =>
        have := readArg_len hr
        simp only [hr, Res.ok.injEq] at h
        rw [← h.2, List.length_cons]
        omega

theorem readInt64_cons (ib : Nat) (s : Bytes) :
    readInt64 (ib :: s) = (readUint64 (ib :: s)).bind fun n r =>
      if ib % 32 = 27 ∧ n > 2 ^ 63 - 1 then .fail (.err .numberTooLarge) else .ok (-1 - (n : Int)) r := by
  rcases (by omega : ib % 32 < 24 ∨ ib % 32 = 24 ∨ ib % 32 = 25 ∨ ib % 32 = 26 ∨ ib % 32 = 27 ∨ 28 ≤ ib % 32) with h | h | h | h | h | h
  · have : ib % 32 ≠ 27 := by omega
    simp [readInt64, readUint64, Res.bind, h, this]
  · simp only [readInt64, readUint64, h]; cases readBE 1 s <;> simp [Res.bind]
  · simp only [readInt64, readUint64, h]; cases readBE 2 s <;> simp [Res.bind]
  · simp only [readInt64, readUint64, h]; cases readBE 4 s <;> simp [Res.bind]
  · simp only [readInt64, readUint64, h]; cases readBE 8 s <;> simp [Res.bind]
  · have : ¬ ib % 32 < 24 ∧ ib % 32 ≠ 24 ∧ ib % 32 ≠ 25 ∧ ib % 32 ≠ 26 ∧ ib % 32 ≠ 27 := by omega
    simp [readInt64, readUint64, Res.bind, this]

/-- `read_double` on the two initial bytes it is called for -/
theorem readDouble_cons (ib : Nat) (s : Bytes) (h : ib % 32 = 26 ∨ ib % 32 = 27) :
    readDouble (ib :: s) = (readUint64 (ib :: s)).map fun x => if ib % 32 = 26 then f32ToF64 x else x := by
  rcases h with h | h
  · simp only [readDouble, readUint64, h]; cases readBE 4 s <;> simp [Res.map]
  · simp only [readDouble, readUint64, h]; cases readBE 8 s <;> simp [Res.map]

theorem readChunks_cons (major fuel ib : Nat) (s : Bytes) :
    readChunks major (fuel + 1) (ib :: s) =
      if ib = 0xFF then .ok [] s
      else if ib / 32 ≠ major then .fail (.err .illegalChunkedString)
      else if ib % 32 = 31 then .fail (.err .illegalChunkedString)
      else (readSize (ib :: s)).bind fun n s1 =>
        if s1.length < n then .fail (.err .unexpectedEof)
        else if major = 3 ∧ badUtf8 (s1.take n) then .fail (.err .invalidUtf8TextString)
        else (readChunks major fuel (s1.drop n)).map (s1.take n ++ ·) := by
  simp only [readChunks]
  refine ite_branches rfl (ite_branches rfl (ite_branches rfl ?_))
  cases readSize (ib :: s) with
  | fail e => rfl
  | ok n s1 => exact ite_branches rfl (ite_branches rfl (by cases readChunks major fuel (s1.drop n) <;> rfl))

theorem readString_eq (major fuel ib : Nat) (s : Bytes) :
    readString major fuel ib s =
      if ib % 32 = 31 then readChunks major fuel s
      else (readSize (ib :: s)).bind fun n s1 => if s1.length < n then .fail (.err .unexpectedEof) else .ok (s1.take n) (s1.drop n) := by
  unfold readString
  exact ite_branches rfl (by cases readSize (ib :: s) <;> rfl)

mutual
  /-- one per node plus every byte of a text or byte string -/
  def Item.weight : Item → Nat
    | .null => 1 | .undef => 1 | .bool _ => 1 | .uint _ => 1 | .nint _ => 1 | .half _ => 1 | .dbl _ => 1
    | .str s => 1 + s.length
    | .bytes b => 1 + b.length
    | .arr xs => 1 + weightList xs
    | .map ms => 1 + weightMembers ms
  def weightList : List Item → Nat
    | [] => 0
    | x :: xs => x.weight + weightList xs
  def weightMembers : List (Item × Item) → Nat
    | [] => 0
    | (k, v) :: ms => k.weight + v.weight + weightMembers ms
end

mutual
  /-- how many containers are open around the innermost item (scalars 0; keys count like values) -/
  def Item.depth : Item → Nat
    | .null => 0 | .undef => 0 | .bool _ => 0 | .uint _ => 0 | .nint _ => 0 | .half _ => 0 | .dbl _ => 0 | .str _ => 0 | .bytes _ => 0
    | .arr xs => depthList xs + 1
    | .map ms => depthMembers ms + 1
  def depthList : List Item → Nat
    | [] => 0
    | x :: xs => max x.depth (depthList xs)
  def depthMembers : List (Item × Item) → Nat
    | [] => 0
    | (k, v) :: ms => max (max k.depth v.depth) (depthMembers ms)
end

theorem Item.weight_pos (v : Item) : 1 ≤ v.weight := by
  cases v <;> simp [Item.weight] <;> omega

/-- the chunks delivered and the rest together are shorter than the input: the break byte is consumed -/
theorem readChunks_weight (major : Nat) : ∀ (fuel : Nat) (s : Bytes) (b r : Bytes),
    readChunks major fuel s = .ok b r → b.length + r.length < s.length := by
  intro fuel
  induction fuel with
  | zero => intro s b r h; simp [readChunks] at h
  | succ fuel ih =>
    intro s b r h
    cases s with
    | nil => simp [readChunks] at h
    | cons ib s =>
      rw [readChunks_cons] at h
      split at h
      · simp only [Res.ok.injEq] at h; simp [← h.1, ← h.2]
      · simp only [Res.ite_fail_eq_ok, Res.bind_eq_ok, Res.map_eq_ok] at h
        obtain ⟨-, -, n, s1, hn, -, -, more, hm, rfl⟩ := h
        have := readUint64_len hn
        have := ih _ _ _ hm
        simp only [List.length_cons, List.length_drop, List.length_append, List.length_take] at *
        omega

theorem readString_weight {major fuel ib : Nat} {s b r : Bytes} (h : readString major fuel ib s = .ok b r) :
    b.length + r.length ≤ s.length := by
  rw [readString_eq] at h
  split at h
  · exact Nat.le_of_lt (readChunks_weight _ _ _ _ _ h)
  · simp only [Res.bind_eq_ok, Res.ite_fail_eq_ok, Res.ok.injEq] at h
    obtain ⟨n, s1, hn, -, rfl, rfl⟩ := h
    have := readUint64_len hn
    simp only [List.length_cons, List.length_drop, List.length_take] at *
    omega

section equations
variable (maxD fuel d ib n : Nat) (s : Bytes)

theorem item_uint (hm : ib / 32 = 0) : item maxD (fuel + 1) d (ib :: s) = (readUint64 (ib :: s)).map .uint := by
  simp only [item, hm, Nat.reduceEqDiff, if_true, if_false]
  cases readUint64 (ib :: s) <;> rfl

theorem item_nint (hm : ib / 32 = 1) : item maxD (fuel + 1) d (ib :: s) = (readInt64 (ib :: s)).map .nint := by
  simp only [item, hm, Nat.reduceEqDiff, if_true, if_false]
  cases readInt64 (ib :: s) <;> rfl

theorem item_bytes (hm : ib / 32 = 2) : item maxD (fuel + 1) d (ib :: s) = (readString 2 fuel ib s).map .bytes := by
  simp only [item, hm, Nat.reduceEqDiff, if_true, if_false]
  cases readString 2 fuel ib s <;> rfl

theorem item_text (hm : ib / 32 = 3) : item maxD (fuel + 1) d (ib :: s) =
    (readString 3 fuel ib s).bind fun b r => if badUtf8 b then .fail (.err .invalidUtf8TextString) else .ok (.str b) r := by
  simp only [item, hm, Nat.reduceEqDiff, if_true, if_false]
  cases readString 3 fuel ib s <;> rfl

/-- `begin_array`: the level is counted before the length is read -/
theorem item_array (hm : ib / 32 = 4) : item maxD (fuel + 1) d (ib :: s) =
    if d + 1 > maxD then .fail (.err .maxNestingDepthExceeded)
    else if ib % 32 = 31 then (itemsIndef maxD fuel (d + 1) s).map .arr
    else (readSize (ib :: s)).bind fun n s1 => (items maxD fuel (d + 1) n s1).map .arr := by
  simp only [item, hm, Nat.reduceEqDiff, if_true, if_false]
  refine ite_branches rfl (ite_branches ?_ ?_)
  · cases itemsIndef maxD fuel (d + 1) s <;> rfl
  · cases readSize (ib :: s) with
    | fail e => rfl
    | ok n s1 => cases hi : items maxD fuel (d + 1) n s1 <;> simp [Res.bind, Res.map, hi]

theorem item_map (hm : ib / 32 = 5) : item maxD (fuel + 1) d (ib :: s) =
    if d + 1 > maxD then .fail (.err .maxNestingDepthExceeded)
    else if ib % 32 = 31 then (membersIndef maxD fuel (d + 1) s).map .map
    else (readSize (ib :: s)).bind fun n s1 => (members maxD fuel (d + 1) n s1).map .map := by
  simp only [item, hm, Nat.reduceEqDiff, if_true, if_false]
  refine ite_branches rfl (ite_branches ?_ ?_)
  · cases membersIndef maxD fuel (d + 1) s <;> rfl
  · cases readSize (ib :: s) with
    | fail e => rfl
    | ok n s1 => cases hi : members maxD fuel (d + 1) n s1 <;> simp [Res.bind, Res.map, hi]

/-- a tag (major 6), or a list element that is not a byte: outside the modelled fragment -/
theorem item_skip (hm : ib / 32 = 6 ∨ 8 ≤ ib / 32) : item maxD (fuel + 1) d (ib :: s) = .fail .skip := by
  rcases hm with hm | hm
  · simp only [item, hm, if_true]
  · have : ¬ ib / 32 = 0 ∧ ¬ ib / 32 = 1 ∧ ¬ ib / 32 = 2 ∧ ¬ ib / 32 = 3 ∧ ¬ ib / 32 = 4 ∧ ¬ ib / 32 = 5 ∧ ¬ ib / 32 = 6 ∧ ¬ ib / 32 = 7 := by omega
    simp only [item, this, if_false]

theorem item_simple (hm : ib / 32 = 7) : item maxD (fuel + 1) d (ib :: s) =
    if ib % 32 = 20 then .ok (.bool false) s
    else if ib % 32 = 21 then .ok (.bool true) s
    else if ib % 32 = 22 then .ok .null s
    else if ib % 32 = 23 then .ok .undef s
    else if ib % 32 = 25 then (readUint64 (ib :: s)).map .half
    else if ib % 32 = 26 ∨ ib % 32 = 27 then (readDouble (ib :: s)).map .dbl
    else .fail (.err .unknownType) := by
  simp only [item, hm, Nat.reduceEqDiff, if_true, if_false]
  refine ite_branches rfl (ite_branches rfl (ite_branches rfl (ite_branches rfl (ite_branches ?_ (ite_branches ?_ rfl)))))
  · cases readUint64 (ib :: s) <;> rfl
  · cases readDouble (ib :: s) <;> rfl

/-- a major-7 item is `unknown_type`, or a scalar `mk x` of weight 1: a simple value that costs the initial byte (`mk` is then constant, so
    `mk 0` is that value), or a half / float made from an argument `x` read like `read_uint64`'s -/
theorem item_simple_shape (hm : ib / 32 = 7) :
    item maxD (fuel + 1) d (ib :: s) = .fail (.err .unknownType) ∨
    ∃ mk : Nat → Item, (∀ x, (mk x).weight = 1 ∧ (mk x).depth = 0) ∧
      (item maxD (fuel + 1) d (ib :: s) = .ok (mk 0) s ∨ item maxD (fuel + 1) d (ib :: s) = (readUint64 (ib :: s)).map mk) := by
  rw [item_simple maxD fuel d ib s hm]
  rcases (by omega : ib % 32 = 20 ∨ ib % 32 = 21 ∨ ib % 32 = 22 ∨ ib % 32 = 23 ∨ ib % 32 = 25 ∨ (ib % 32 = 26 ∨ ib % 32 = 27) ∨
      (ib % 32 < 20 ∨ ib % 32 = 24 ∨ 28 ≤ ib % 32)) with h | h | h | h | h | h | h
  · exact Or.inr ⟨fun _ => .bool false, fun _ => ⟨rfl, rfl⟩, Or.inl (by simp only [h, if_true])⟩
  · exact Or.inr ⟨fun _ => .bool true, fun _ => ⟨rfl, rfl⟩, Or.inl (by simp only [h, Nat.reduceEqDiff, if_true, if_false])⟩
  · exact Or.inr ⟨fun _ => .null, fun _ => ⟨rfl, rfl⟩, Or.inl (by simp only [h, Nat.reduceEqDiff, if_true, if_false])⟩
  · exact Or.inr ⟨fun _ => .undef, fun _ => ⟨rfl, rfl⟩, Or.inl (by simp only [h, Nat.reduceEqDiff, if_true, if_false])⟩
  · exact Or.inr ⟨.half, fun _ => ⟨rfl, rfl⟩, Or.inr (by simp only [h, Nat.reduceEqDiff, if_true, if_false])⟩
  · have e : ¬ ib % 32 = 20 ∧ ¬ ib % 32 = 21 ∧ ¬ ib % 32 = 22 ∧ ¬ ib % 32 = 23 ∧ ¬ ib % 32 = 25 := by omega
    refine Or.inr ⟨fun x => .dbl (if ib % 32 = 26 then f32ToF64 x else x), fun _ => ⟨rfl, rfl⟩, Or.inr ?_⟩
    simp only [e, h, if_true, if_false, readDouble_cons ib s h, Res.map_map]; rfl
  · have e : ¬ ib % 32 = 20 ∧ ¬ ib % 32 = 21 ∧ ¬ ib % 32 = 22 ∧ ¬ ib % 32 = 23 ∧ ¬ ib % 32 = 25 ∧ ¬ (ib % 32 = 26 ∨ ib % 32 = 27) := by omega
    exact Or.inl (by simp only [e, if_false])

/-- when the head cannot be read, that failure is the item's (majors 4 and 5: unless the nesting limit is hit first) -/
theorem item_head_fail {e : Fail} (hm : ib / 32 < 4 ∨ (ib / 32 < 6 ∧ d + 1 ≤ maxD)) (h31 : 2 ≤ ib / 32 → ib % 32 ≠ 31)
    (hu : readUint64 (ib :: s) = .fail e) : item maxD (fuel + 1) d (ib :: s) = .fail e := by
  rcases (by omega : ib / 32 = 0 ∨ ib / 32 = 1 ∨ ib / 32 = 2 ∨ ib / 32 = 3 ∨ (ib / 32 = 4 ∧ d + 1 ≤ maxD) ∨ (ib / 32 = 5 ∧ d + 1 ≤ maxD))
    with hm | hm | hm | hm | ⟨hm, hd⟩ | ⟨hm, hd⟩
  · rw [item_uint maxD fuel d ib s hm, hu]; rfl
  · rw [item_nint maxD fuel d ib s hm, readInt64_cons, hu]; rfl
  · rw [item_bytes maxD fuel d ib s hm, readString_eq, if_neg (h31 (by omega)), readSize, hu]; rfl
  · rw [item_text maxD fuel d ib s hm, readString_eq, if_neg (h31 (by omega)), readSize, hu]; rfl
  · rw [item_array maxD fuel d ib s hm, if_neg (by omega), if_neg (h31 (by omega)), readSize, hu]; rfl
  · rw [item_map maxD fuel d ib s hm, if_neg (by omega), if_neg (h31 (by omega)), readSize, hu]; rfl

theorem items_zero : items maxD fuel d 0 s = .ok [] s := by
  cases fuel <;> rfl

theorem items_succ : items maxD (fuel + 1) d (n + 1) s =
    (item maxD fuel d s).bind fun x s1 => (items maxD fuel d n s1).map (x :: ·) := by
  simp only [items]
  cases item maxD fuel d s with
  | fail e => rfl
  | ok x s1 => cases hi : items maxD fuel d n s1 <;> simp [Res.bind, Res.map, hi]

theorem itemsIndef_cons : itemsIndef maxD (fuel + 1) d (ib :: s) =
    if ib = 0xFF then .ok [] s
    else (item maxD fuel d (ib :: s)).bind fun x s1 => (itemsIndef maxD fuel d s1).map (x :: ·) := by
  simp only [itemsIndef]
  refine ite_branches rfl ?_
  cases item maxD fuel d (ib :: s) with
  | fail e => rfl
  | ok x s1 => cases hi : itemsIndef maxD fuel d s1 <;> simp [Res.bind, Res.map, hi]

theorem members_zero : members maxD fuel d 0 s = .ok [] s := by
  cases fuel <;> rfl

theorem members_succ : members maxD (fuel + 1) d (n + 1) s =
    (item maxD fuel d s).bind fun k s1 => (item maxD fuel d s1).bind fun v s2 => (members maxD fuel d n s2).map ((k, v) :: ·) := by
  simp only [members]
  cases item maxD fuel d s with
  | fail e => rfl
  | ok k s1 =>
    cases hv : item maxD fuel d s1 with
    | fail e => simp [Res.bind, hv]
    | ok v s2 => cases hi : members maxD fuel d n s2 <;> simp [Res.bind, Res.map, hv, hi]

/-- the break is looked for at key positions only -/
theorem membersIndef_cons : membersIndef maxD (fuel + 1) d (ib :: s) =
    if ib = 0xFF then .ok [] s
    else (item maxD fuel d (ib :: s)).bind fun k s1 => (item maxD fuel d s1).bind fun v s2 =>
      (membersIndef maxD fuel d s2).map ((k, v) :: ·) := by
  simp only [membersIndef]
  refine ite_branches rfl ?_
  cases item maxD fuel d (ib :: s) with
  | fail e => rfl
  | ok k s1 =>
    cases hv : item maxD fuel d s1 with
    | fail e => simp [Res.bind, hv]
    | ok v s2 => cases hi : membersIndef maxD fuel d s2 <;> simp [Res.bind, Res.map, hv, hi]

end equations

/-- a successful `item` delivers a leaf within the bytes it consumed, or a container whose elements one of the four list readers read at
    depth `d + 1` from a shorter input -/
theorem item_ok {maxD fuel d : Nat} {s : Bytes} {v : Item} {r : Bytes} (h : item maxD (fuel + 1) d s = .ok v r) :
    (v.depth = 0 ∧ v.weight + r.length ≤ s.length) ∨
    (d + 1 ≤ maxD ∧ ∃ s1, s1.length < s.length ∧
      ((∃ n xs, v = .arr xs ∧ items maxD fuel (d + 1) n s1 = .ok xs r) ∨ (∃ xs, v = .arr xs ∧ itemsIndef maxD fuel (d + 1) s1 = .ok xs r) ∨
       (∃ n ms, v = .map ms ∧ members maxD fuel (d + 1) n s1 = .ok ms r) ∨
       (∃ ms, v = .map ms ∧ membersIndef maxD fuel (d + 1) s1 = .ok ms r))) := by
  have scalar : ∀ {w : Item} {r s : Bytes}, w.weight = 1 → r.length < s.length → w.weight + r.length ≤ s.length := by
    intro w r s hw hr; omega
  cases s with
  | nil => simp [item] at h
  | cons ib s =>
    rcases (by omega : ib / 32 = 0 ∨ ib / 32 = 1 ∨ ib / 32 = 2 ∨ ib / 32 = 3 ∨ ib / 32 = 4 ∨ ib / 32 = 5 ∨ ib / 32 = 7 ∨ (ib / 32 = 6 ∨ 8 ≤ ib / 32))
      with hm | hm | hm | hm | hm | hm | hm | hm
    · obtain ⟨n, hn, rfl⟩ := Res.map_eq_ok.1 (item_uint maxD fuel d ib s hm ▸ h)
      exact Or.inl ⟨rfl, scalar rfl (readUint64_len hn)⟩
    · simp only [item_nint maxD fuel d ib s hm, readInt64_cons, Res.map_eq_ok, Res.bind_eq_ok, Res.ite_fail_eq_ok, Res.ok.injEq] at h
      obtain ⟨i, ⟨n, r', hn, -, rfl, rfl⟩, rfl⟩ := h
      exact Or.inl ⟨rfl, scalar rfl (readUint64_len hn)⟩
    · obtain ⟨b, hb, rfl⟩ := Res.map_eq_ok.1 (item_bytes maxD fuel d ib s hm ▸ h)
      have := readString_weight hb
      exact Or.inl ⟨rfl, by simp only [Item.weight, List.length_cons]; omega⟩
    · simp only [item_text maxD fuel d ib s hm, Res.bind_eq_ok, Res.ite_fail_eq_ok, Res.ok.injEq] at h
      obtain ⟨b, r', hb, -, rfl, rfl⟩ := h
      have := readString_weight hb
      exact Or.inl ⟨rfl, by simp only [Item.weight, List.length_cons]; omega⟩
    · obtain ⟨hd, h⟩ := Res.ite_fail_eq_ok.1 (item_array maxD fuel d ib s hm ▸ h)
      refine Or.inr ⟨by omega, ?_⟩
      split at h
      · obtain ⟨xs, hx, rfl⟩ := Res.map_eq_ok.1 h
        exact ⟨s, Nat.lt_succ_self _, Or.inr (Or.inl ⟨xs, rfl, hx⟩)⟩
      · obtain ⟨n, s1, hn, h⟩ := Res.bind_eq_ok.1 h
        obtain ⟨xs, hx, rfl⟩ := Res.map_eq_ok.1 h
        exact ⟨s1, readUint64_len hn, Or.inl ⟨n, xs, rfl, hx⟩⟩
    · obtain ⟨hd, h⟩ := Res.ite_fail_eq_ok.1 (item_map maxD fuel d ib s hm ▸ h)
      refine Or.inr ⟨by omega, ?_⟩
      split at h
      · obtain ⟨ms, hx, rfl⟩ := Res.map_eq_ok.1 h
        exact ⟨s, Nat.lt_succ_self _, Or.inr (Or.inr (Or.inr ⟨ms, rfl, hx⟩))⟩
      · obtain ⟨n, s1, hn, h⟩ := Res.bind_eq_ok.1 h
        obtain ⟨ms, hx, rfl⟩ := Res.map_eq_ok.1 h
        exact ⟨s1, readUint64_len hn, Or.inr (Or.inr (Or.inl ⟨n, ms, rfl, hx⟩))⟩
    · rcases item_simple_shape maxD fuel d ib s hm with e | ⟨mk, hmk, e | e⟩
      · rw [e] at h; cases h
      · simp only [e, Res.ok.injEq] at h
        obtain ⟨hw, h0⟩ := hmk 0
        exact Or.inl (h.1 ▸ h.2 ▸ ⟨h0, scalar hw (Nat.lt_succ_self _)⟩)
      · obtain ⟨n, hn, rfl⟩ := Res.map_eq_ok.1 (e ▸ h)
        obtain ⟨hw, h0⟩ := hmk n
        exact Or.inl ⟨h0, scalar hw (readUint64_len hn)⟩
    · rw [item_skip maxD fuel d ib s hm] at h
      cases h

end JV.Model.CborParser
