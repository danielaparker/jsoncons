/-
  JV.Proofs.JsonParserInvariants — two invariants of the parser model, each a property of one step lifted through `feed`: the nesting
  level stays within the limit (every cell fails or keeps the level, except the two container-opening steps, which test the limit
  first), and on a text without the byte `/` the `allow_comments` option has no effect (only a `/` enters the `slash` state, the one
  cell that consults the option).
-/
import JV.Proofs.JsonParser
namespace JV
namespace Model
namespace JsonParser

/-! `nd_x` is `NoDeeper s (x s)` for the continuation `x` of the frame lemmas, `lvl_x` is `LevelOK` after the container-opening `x`;
further down `ns_x` is `NoSl` ("no `slash` state") after `x`. Each set is what `stepChar_frame` asks for. -/

def LevelOK (cfg : Cfg) (s : St) : Prop := s.err = none → s.level ≤ cfg.maxDepth

def NoDeeper (s s' : St) : Prop := s'.err = none → s'.level ≤ s.level

theorem nd_refl (s : St) : NoDeeper s s := fun _ => Nat.le_refl _
theorem nd_fail (s t : St) (c : Nat) : NoDeeper s (fail t c) := nofun
theorem nd_of_level_eq {s s' : St} (h : s'.level = s.level) : NoDeeper s s' := fun _ => Nat.le_of_eq h

theorem nd_afterValue (s : St) : NoDeeper s (afterValue s) := by
  unfold afterValue
  split <;> exact fun _ => Nat.le_refl _
theorem nd_afterLiteral (s : St) : NoDeeper s (afterLiteral s) := by
  unfold afterLiteral
  split <;> exact nd_refl s
theorem nd_endInteger (s : St) : NoDeeper s (endInteger s) := nd_afterValue (emit s _)
theorem nd_endFraction (s : St) : NoDeeper s (endFraction s) := nd_afterValue (emit s _)
theorem nd_endString (s : St) : NoDeeper s (endString s) := by
  unfold endString
  split
  · exact nd_fail s s _
  · split <;> exact fun _ => Nat.le_refl _
theorem nd_endObject (s : St) : NoDeeper s (endObject s) := by
  unfold endObject
  refine ite_cases (fun _ => nd_fail s s _) (fun _ => ?_)
  split
  · exact ite_cases (fun _ _ => Nat.sub_le _ _) (fun _ _ => Nat.sub_le _ _)
  · exact nd_fail s _ _
  · exact nd_fail s _ _
theorem nd_endArray (s : St) : NoDeeper s (endArray s) := by
  unfold endArray
  refine ite_cases (fun _ => nd_fail s s _) (fun _ => ?_)
  split
  · exact ite_cases (fun _ _ => Nat.sub_le _ _) (fun _ _ => Nat.sub_le _ _)
  · exact nd_fail s _ _
  · exact nd_fail s _ _
theorem nd_bmoe (s : St) : NoDeeper s (beginMemberOrElement s) := by
  unfold beginMemberOrElement
  split <;> exact fun _ => Nat.le_refl _

theorem lvl_beginObject (cfg : Cfg) (s : St) : LevelOK cfg (beginObject cfg s) := by
  unfold beginObject
  exact ite_cases (fun _ => nofun) (fun h _ => Nat.le_of_not_gt h)
theorem lvl_beginArray (cfg : Cfg) (s : St) : LevelOK cfg (beginArray cfg s) := by
  unfold beginArray
  exact ite_cases (fun _ => nofun) (fun h _ => Nat.le_of_not_gt h)

theorem levelOK_stepChar (cfg : Cfg) (s : St) (c : Nat) (h : LevelOK cfg s) (he : s.err = none) : LevelOK cfg (stepChar cfg s c).1 := by
  have ND : ∀ s', NoDeeper s s' → LevelOK cfg s' := fun _ hn he' => Nat.le_trans (hn he') (h he)
  exact stepChar_frame (P := LevelOK cfg) (fun k => ND _ (nd_fail s s k)) (fun s' hs => ND s' (nd_of_level_eq hs.2.2.1))
    (fun p s' hs _ => ND s' (nd_of_level_eq hs.2.2.1)) (fun q p s' hs _ _ => ND s' (nd_of_level_eq hs.2.2.1)) (ND _ (nd_refl s))
    (ND _ (nd_endString s)) (ND _ (nd_endInteger s)) (ND _ (nd_endFraction s)) (fun e => ND _ (nd_afterLiteral (emit s e)))
    (lvl_beginObject cfg s) (lvl_beginArray cfg s) (ND _ (nd_endObject s)) (ND _ (nd_endArray s)) (ND _ (nd_bmoe s))

theorem levelOK_feed (cfg : Cfg) (s : St) (bs : Bytes) (h : LevelOK cfg s) : LevelOK cfg (feed cfg s bs) :=
  feed_induction (ok := fun _ => True) (fun s c _ he hs => levelOK_stepChar cfg s c hs he) bs s (fun _ _ => trivial) h

theorem levelOK_init (cfg : Cfg) : LevelOK cfg init := fun _ => Nat.zero_le _

theorem beginArray_at_limit (cfg : Cfg) (s : St) (h : s.level = cfg.maxDepth) : (beginArray cfg s).err = some eMaxDepth := by
  simp [beginArray, h, fail]
theorem beginObject_at_limit (cfg : Cfg) (s : St) (h : s.level = cfg.maxDepth) : (beginObject cfg s).err = some eMaxDepth := by
  simp [beginObject, h, fail]
theorem beginArray_below_limit (cfg : Cfg) (s : St) (h : s.level < cfg.maxDepth) :
    (beginArray cfg s).err = s.err ∧ (beginArray cfg s).level = s.level + 1 := by
  have : ¬ (s.level + 1 > cfg.maxDepth) := by omega
  simp [beginArray, this, emit]
theorem beginObject_below_limit (cfg : Cfg) (s : St) (h : s.level < cfg.maxDepth) :
    (beginObject cfg s).err = s.err ∧ (beginObject cfg s).level = s.level + 1 := by
  have : ¬ (s.level + 1 > cfg.maxDepth) := by omega
  simp [beginObject, this, emit]

def NoSl (s : St) : Prop := s.st ≠ .slash ∧ ∀ p ∈ s.stack, p ≠ .slash

theorem stepChar_comments (cfg : Cfg) (b : Bool) (s : St) (c : Nat) (h : s.st ≠ .slash) :
    stepChar { cfg with comments := b } s c = stepChar cfg s c := by
  unfold stepChar
  cases hst : s.st <;> first | rfl | exact absurd hst h

theorem ns_fail (s : St) (k : Nat) (h : NoSl s) : NoSl (fail s k) := h
theorem NoSl.of_eq {s s' : St} {p : PS} (h : NoSl s) (hp : p ≠ .slash) (h1 : s'.st = p) (h2 : s'.stack = s.stack) : NoSl s' :=
  ⟨h1 ▸ hp, h2 ▸ h.2⟩
theorem ns_tail (s : St) (h : NoSl s) : ∀ p ∈ s.stack.tail, p ≠ .slash := fun p hp => h.2 p (List.mem_of_mem_tail hp)
theorem ns_head (s : St) (h : NoSl s) : s.stack.headD .root ≠ .slash := by
  cases hs : s.stack with
  | nil => nofun
  | cons a t => exact h.2 a (hs ▸ List.mem_cons_self)
theorem ns_popTo (s : St) (h : NoSl s) : NoSl (popTo s) := ⟨ns_head s h, ns_tail s h⟩

theorem ns_afterValue (s : St) (h : NoSl s) : NoSl (afterValue s) := by
  unfold afterValue
  split
  · exact h.of_eq (p := .expectCommaOrEnd) nofun rfl rfl
  · exact h.of_eq (p := .expectCommaOrEnd) nofun rfl rfl
  · exact h.of_eq (p := .accept) nofun rfl rfl
  · exact h
theorem ns_afterLiteral (s : St) (h : NoSl s) : NoSl (afterLiteral s) := by
  unfold afterLiteral
  exact ite_cases (fun _ => h.of_eq (p := .accept) nofun rfl rfl) (fun _ => h.of_eq (p := .expectCommaOrEnd) nofun rfl rfl)
theorem ns_endString (s : St) (h : NoSl s) : NoSl (endString s) := by
  unfold endString
  split
  · exact h
  · split
    · exact ⟨nofun, ns_tail s h⟩
    · exact h.of_eq (p := .expectCommaOrEnd) nofun rfl rfl
    · exact h.of_eq (p := .expectCommaOrEnd) nofun rfl rfl
    · exact h.of_eq (p := .accept) nofun rfl rfl
    · exact h
theorem ns_endObject (s : St) (h : NoSl s) : NoSl (endObject s) := by
  unfold endObject
  refine ite_cases (fun _ => h) (fun _ => ?_)
  split
  · exact ite_cases (fun _ => ⟨nofun, ns_tail s h⟩) (fun _ => ⟨nofun, ns_tail s h⟩)
  · exact ns_popTo s h
  · exact ns_popTo s h
theorem ns_endArray (s : St) (h : NoSl s) : NoSl (endArray s) := by
  unfold endArray
  refine ite_cases (fun _ => h) (fun _ => ?_)
  split
  · exact ite_cases (fun _ => ⟨nofun, ns_tail s h⟩) (fun _ => ⟨nofun, ns_tail s h⟩)
  · exact ns_popTo s h
  · exact ns_popTo s h
theorem ns_bmoe (s : St) (h : NoSl s) : NoSl (beginMemberOrElement s) := by
  unfold beginMemberOrElement
  split
  · exact h.of_eq (p := .expectMemberName) nofun rfl rfl
  · exact h.of_eq (p := .expectValue) nofun rfl rfl
  · exact h
  · exact h
theorem ns_beginObject (cfg : Cfg) (s : St) (h : NoSl s) : NoSl (beginObject cfg s) := by
  unfold beginObject
  exact ite_cases (fun _ => h) (fun _ => ⟨nofun, List.forall_mem_cons.2 ⟨nofun, h.2⟩⟩)
theorem ns_beginArray (cfg : Cfg) (s : St) (h : NoSl s) : NoSl (beginArray cfg s) := by
  unfold beginArray
  exact ite_cases (fun _ => h) (fun _ => ⟨nofun, List.forall_mem_cons.2 ⟨nofun, h.2⟩⟩)

theorem ns_stepChar (cfg : Cfg) (s : St) (c : Nat) (h : NoSl s) (hc : c ≠ 47) : NoSl (stepChar cfg s c).1 :=
  stepChar_frame (P := NoSl) (fun _ => h) (fun _ hs => h.of_eq h.1 hs.1 hs.2.1) (fun _ _ hs hp => h.of_eq hp hs.1 hs.2.1)
    (fun _ _ _ hs hq hp => ⟨hs.1 ▸ fun e => hc (hp e),
      hs.2.1 ▸ List.forall_mem_cons.2 ⟨hq.elim (fun e => e ▸ h.1) (fun e => e ▸ nofun), h.2⟩⟩)
    (ns_popTo s h) (ns_endString s h) (ns_afterValue _ h) (ns_afterValue _ h) (fun _ => ns_afterLiteral _ h)
    (ns_beginObject cfg s h) (ns_beginArray cfg s h) (ns_endObject s h) (ns_endArray s h) (ns_bmoe s h)

theorem feedChar_comments (cfg : Cfg) (b : Bool) (s : St) (c : Nat) (h : NoSl s) (hc : c ≠ 47) :
    feedChar { cfg with comments := b } s c = feedChar cfg s c ∧ NoSl (feedChar cfg s c) := by
  have n1 := ns_stepChar cfg s c h hc
  have n2 := ns_stepChar cfg _ c n1 hc
  refine ⟨?_, feedChar_induction (fun s _ hs => ns_stepChar cfg s c hs hc) h⟩
  simp only [feedChar, stepChar_comments cfg b s c h.1, stepChar_comments cfg b _ c n1.1, stepChar_comments cfg b _ c n2.1]

theorem feed_comments (cfg : Cfg) (b : Bool) : ∀ (bs : Bytes) (s : St), NoSl s → (∀ x ∈ bs, x ≠ 47) →
    feed { cfg with comments := b } s bs = feed cfg s bs := by
  intro bs
  induction bs with
  | nil => exact fun _ _ _ => List.foldl_nil.trans List.foldl_nil.symm
  | cons c cs ih =>
    intro s h hb
    obtain ⟨e, n⟩ := feedChar_comments cfg b s c h (hb c List.mem_cons_self)
    unfold feed
    rw [List.foldl_cons, List.foldl_cons, e]
    exact ih _ n (fun x hx => hb x (List.mem_cons_of_mem _ hx))

theorem run_comments_slash_free (cfg : Cfg) (b : Bool) (bs : Bytes) (h : ∀ x ∈ bs, x ≠ 47) :
    run { cfg with comments := b } bs = run cfg bs := by
  unfold run
  rw [feed_comments cfg b bs init ⟨nofun, fun p hp => List.mem_singleton.1 hp ▸ nofun⟩ h]

end JsonParser
end Model
end JV
