/-
  JV.Proofs.JsonEncodeLoose — "loose renderings": the compact text of a value with arbitrary RFC 8259 white space at the
  places the grammar allows it (after "[" "{" "," ":" and before "]" "}" "," ":").
    1. Both encoder models write loose renderings: the compact one with no white space at all (`loose_compactS`), the
       indenting one for all layout options whose new_line_chars and indent_char are white space (`encVal_loose`).
    2. Deleting white space outside string literals from any loose rendering of `v` gives `compactS sol v` (`strip_loose`);
       so the indenting encoder differs from the compact one by such white space only (Props/C01).
    3. The reference parser reads every loose rendering of a well-formed value back as that value (`val_loose`: any nesting,
       any flags, depth limit permitting); hence `compactS_parses_back` and `pretty_parses_back`.
-/
import JV.Proofs.JsonEncodeParse
namespace JV
namespace Model
namespace JsonEncode
open Spec.Rfc8259

def sepL (first : Bool) (w1 w2 : Bytes) : Bytes := if first then w1 ++ w2 else w1 ++ 44 :: w2

mutual
  def Loose (sol : Bool) : JT → Bytes → Prop
    | .null, s => s = nullLit
    | .bool true, s => s = trueLit
    | .bool false, s => s = falseLit
    | .num lit, s => s = lit
    | .str t, s => s = strLit sol t
    | .arr xs, s => ∃ body w, s = 91 :: (body ++ (w ++ [93])) ∧ AllWs w ∧ LooseElems sol xs true body
    | .obj ms, s => ∃ body w, s = 123 :: (body ++ (w ++ [125])) ∧ AllWs w ∧ LooseMembers sol ms true body
  def LooseElems (sol : Bool) : List JT → Bool → Bytes → Prop
    | [], _, s => s = []
    | x :: xs, first, s => ∃ w1 w2 core rest, s = sepL first w1 w2 ++ (core ++ rest) ∧ AllWs w1 ∧ AllWs w2 ∧
        Loose sol x core ∧ LooseElems sol xs false rest
  def LooseMembers (sol : Bool) : List (Bytes × JT) → Bool → Bytes → Prop
    | [], _, s => s = []
    | (k, x) :: ms, first, s => ∃ w1 w2 w3 w4 core rest,
        s = sepL first w1 w2 ++ (strLit sol k ++ (w3 ++ 58 :: (w4 ++ (core ++ rest)))) ∧
        AllWs w1 ∧ AllWs w2 ∧ AllWs w3 ∧ AllWs w4 ∧ Loose sol x core ∧ LooseMembers sol ms false rest
end

mutual
  theorem loose_compactS (sol : Bool) : ∀ v : JT, Loose sol v (compactS sol v)
    | .null => rfl
    | .bool true => rfl
    | .bool false => rfl
    | .num _ => rfl
    | .str _ => rfl
    | .arr xs => ⟨_, [], rfl, allWs_nil, looseElems_compact sol xs true⟩
    | .obj ms => ⟨_, [], rfl, allWs_nil, looseMembers_compact sol ms true⟩
  theorem looseElems_compact (sol : Bool) : ∀ (xs : List JT) (first : Bool), LooseElems sol xs first (compactElems sol first xs)
    | [], _ => rfl
    | x :: xs, first =>
      ⟨[], [], _, _, by cases first <;> rfl, allWs_nil, allWs_nil, loose_compactS sol x, looseElems_compact sol xs false⟩
  theorem looseMembers_compact (sol : Bool) : ∀ (ms : List (Bytes × JT)) (first : Bool),
      LooseMembers sol ms first (compactMembers sol first ms)
    | [], _ => rfl
    | (k, x) :: ms, first =>
      ⟨[], [], [], [], _, _, by cases first <;> rfl, allWs_nil, allWs_nil, allWs_nil, allWs_nil, loose_compactS sol x,
        looseMembers_compact sol ms false⟩
end

theorem spaced_split (k c : Nat) : ∃ a b, spaced k c = a ++ c :: b ∧ AllWs a ∧ AllWs b := by
  have h32 : AllWs [32] := by decide
  unfold spaced
  split
  · exact ⟨[], [32], rfl, allWs_nil, h32⟩
  · split
    · exact ⟨[32], [], rfl, h32, allWs_nil⟩
    · split
      · exact ⟨[32], [32], rfl, h32, h32⟩
      · exact ⟨[], [], rfl, allWs_nil, allWs_nil⟩

theorem openBrace_eq (o : PrettyOpts) : openBrace o = 123 :: (if o.padObj = true then [32] else []) := by
  unfold openBrace; split <;> rfl
theorem closeBrace_eq (o : PrettyOpts) : closeBrace o = (if o.padObj = true then [32] else []) ++ [125] := by
  unfold closeBrace; split <;> rfl
theorem openBracket_eq (o : PrettyOpts) : openBracket o = 91 :: (if o.padArr = true then [32] else []) := by
  unfold openBracket; split <;> rfl
theorem closeBracket_eq (o : PrettyOpts) : closeBracket o = (if o.padArr = true then [32] else []) ++ [93] := by
  unfold closeBracket; split <;> rfl

theorem beginObject_split (o : PrettyOpts) (ho : WsLayout o) (par : Option Par) (ind col : Nat) :
    ∃ w, (beginObject o par ind col).1 = elemComma o par ++ w ∧ AllWs w := by
  cases par with
  | none => exact ⟨[], rfl, allWs_nil⟩
  | some p =>
    simp only [beginObject]
    split
    · exact ⟨_, rfl, allWs_ite _ _ (allWs_nl o ho ind)⟩
    · exact ⟨_, rfl, allWs_nl o ho ind⟩

theorem beginArray_split (o : PrettyOpts) (ho : WsLayout o) (par : Option Par) (ind col : Nat) :
    ∃ w, (beginArray o par ind col).1 = elemComma o par ++ w ∧ AllWs w := by
  cases par with
  | none => exact ⟨[], rfl, allWs_nil⟩
  | some p =>
    simp only [beginArray]
    by_cases h1 : p.isObj = true
    · simp only [h1, if_true]; exact ⟨[], by simp, allWs_nil⟩
    · simp only [h1, Bool.false_eq_true, if_false]
      split
      · exact ⟨_, rfl, allWs_ite _ _ (allWs_nl o ho ind)⟩
      · exact ⟨_, rfl, allWs_nl o ho ind⟩

theorem scalar_loose (o : PrettyOpts) (ho : WsLayout o) (par : Option Par) (ind col : Nat) (v : JT) (t : Bytes)
    (ht : Loose o.solidus v t) :
    ∃ w core, (scalar o par ind col t).out = elemComma o par ++ (w ++ core) ∧ AllWs w ∧ Loose o.solidus v core := by
  cases par with
  | none => exact ⟨[], t, rfl, allWs_nil, ht⟩
  | some p =>
    simp only [scalar]
    exact ⟨_, t, by rw [List.append_assoc],
      allWs_append (allWs_ite _ _ (allWs_nl o ho ind)) (allWs_ite _ _ (allWs_nl o ho ind)), ht⟩

theorem looseElems_prepend (sol : Bool) (x : JT) (xs : List JT) (p s : Bytes) (hp : AllWs p)
    (h : LooseElems sol (x :: xs) true s) : LooseElems sol (x :: xs) true (p ++ s) := by
  obtain ⟨w1, w2, core, rest, rfl, h1, h2, hc, hr⟩ := h
  exact ⟨p ++ w1, w2, core, rest, by simp [sepL], allWs_append hp h1, h2, hc, hr⟩

theorem looseMembers_prepend (sol : Bool) (m : Bytes × JT) (ms : List (Bytes × JT)) (p s : Bytes) (hp : AllWs p)
    (h : LooseMembers sol (m :: ms) true s) : LooseMembers sol (m :: ms) true (p ++ s) := by
  obtain ⟨k, x⟩ := m
  obtain ⟨w1, w2, w3, w4, core, rest, rfl, h1, h2, h3, h4, hc, hr⟩ := h
  exact ⟨p ++ w1, w2, w3, w4, core, rest, by simp [sepL], allWs_append hp h1, h2, h3, h4, hc, hr⟩

theorem loose_arr_wrap (o : PrettyOpts) (ho : WsLayout o) (xs : List JT) (ind : Nat) (body : Out)
    (h : LooseElems o.solidus xs true body.out) :
    Loose o.solidus (.arr xs) (openBracket o ++ (body.out ++ ((if body.nla = true then nl o ind else []) ++ closeBracket o))) := by
  have hp : AllWs (if o.padArr = true then [32] else []) := allWs_ite _ _ (by decide)
  have hq := allWs_append (allWs_ite body.nla _ (allWs_nl o ho ind)) hp
  rw [openBracket_eq, closeBracket_eq]
  cases xs with
  | nil => rw [show body.out = [] from h]; exact ⟨[], _, by simp, allWs_append hp hq, rfl⟩
  | cons x xs => exact ⟨_, _, by simp, hq, looseElems_prepend _ x xs _ body.out hp h⟩

theorem loose_obj_wrap (o : PrettyOpts) (ho : WsLayout o) (ms : List (Bytes × JT)) (ind : Nat) (body : Out)
    (h : LooseMembers o.solidus ms true body.out) :
    Loose o.solidus (.obj ms) (openBrace o ++ (body.out ++ ((if body.nla = true then nl o ind else []) ++ closeBrace o))) := by
  have hp : AllWs (if o.padObj = true then [32] else []) := allWs_ite _ _ (by decide)
  have hq := allWs_append (allWs_ite body.nla _ (allWs_nl o ho ind)) hp
  rw [openBrace_eq, closeBrace_eq]
  cases ms with
  | nil => rw [show body.out = [] from h]; exact ⟨[], _, by simp, allWs_append hp hq, rfl⟩
  | cons m ms => exact ⟨_, _, by simp, hq, looseMembers_prepend _ m ms _ body.out hp h⟩

/-- a member: the separating comma, the white space `visit_key` writes, the name, the colon, the value (in some column),
    the remaining members (with some loop variables) -/
theorem encMembers_cons (o : PrettyOpts) (ho : WsLayout o) (split ind col : Nat) (first nla : Bool) (dp : Nat) (k : Bytes) (x : JT)
    (ms : List (Bytes × JT)) : ∃ (W : Bytes) (c1 : Nat) (nla1 : Bool) (dp1 : Nat), AllWs W ∧
    (encMembers o split ind col first nla dp ((k, x) :: ms)).out =
      (if first then [] else commaStr o) ++ (W ++ ((strLit o.solidus k ++ colonStr o) ++
        ((encVal o (some ⟨true, split, first, false⟩) ind c1 x).out ++
          (encMembers o split ind (encVal o (some ⟨true, split, first, false⟩) ind c1 x).col false nla1 dp1 ms).out))) := by
  refine ⟨_, _, _, _, ?_, by simp only [encMembers]; rfl⟩
  cases (split == 0)
  · exact allWs_ite _ _ (allWs_nlPos o ho dp)
  · exact allWs_nl o ho ind

/-- the comma an element or member other than the first is preceded by, with its spaces and the white space after it -/
theorem comma_sepL (o : PrettyOpts) (first : Bool) (w : Bytes) (hw : AllWs w) :
    ∃ w1 w2, (if first then [] else commaStr o) ++ w = sepL first w1 w2 ∧ AllWs w1 ∧ AllWs w2 := by
  cases first with
  | true => exact ⟨w, [], by simp [sepL], hw, allWs_nil⟩
  | false =>
    obtain ⟨a, b, eab, ha, hb⟩ := spaced_split o.comma 44
    exact ⟨a, b ++ w, by simp [sepL, commaStr, eab], ha, allWs_append hb hw⟩

mutual
  theorem encVal_loose (o : PrettyOpts) (ho : WsLayout o) : ∀ (v : JT) (par : Option Par) (ind col : Nat),
      ∃ w core, (encVal o par ind col v).out = elemComma o par ++ (w ++ core) ∧ AllWs w ∧ Loose o.solidus v core
    | .null, par, ind, col => scalar_loose o ho par ind col .null nullLit rfl
    | .bool true, par, ind, col => scalar_loose o ho par ind col (.bool true) trueLit rfl
    | .bool false, par, ind, col => scalar_loose o ho par ind col (.bool false) falseLit rfl
    | .num lit, par, ind, col => scalar_loose o ho par ind col (.num lit) lit rfl
    | .str t, par, ind, col => scalar_loose o ho par ind col (.str t) (strLit o.solidus t) rfl
    | .arr xs, par, ind, col => by
      obtain ⟨wB, eB, hB⟩ := beginArray_split o ho par ind col
      have hbody := encElems_loose o ho xs (beginArray o par ind col).2.2.2.1 (beginArray o par ind col).2.2.2.2
        (ind + o.indentSize) ((beginArray o par ind col).2.1 + (openBracket o).length) true false
      refine ⟨wB, _, ?_, hB, loose_arr_wrap o ho xs ind _ hbody⟩
      simp only [encVal, eB, List.append_assoc]
    | .obj ms, par, ind, col => by
      obtain ⟨wB, eB, hB⟩ := beginObject_split o ho par ind col
      have hbody := encMembers_loose o ho ms (beginObject o par ind col).2.2.2
        (ind + o.indentSize) ((beginObject o par ind col).2.1 + (openBrace o).length) true false
        ((beginObject o par ind col).2.1 + (openBrace o).length)
      refine ⟨wB, _, ?_, hB, loose_obj_wrap o ho ms ind _ hbody⟩
      simp only [encVal, eB, List.append_assoc]
  theorem encElems_loose (o : PrettyOpts) (ho : WsLayout o) : ∀ (xs : List JT) (split : Nat) (ib : Bool) (ind col : Nat) (first nla : Bool),
      LooseElems o.solidus xs first (encElems o split ib ind col first nla xs).out
    | [], _, _, _, _, _, _ => by simp [encElems, LooseElems]
    | x :: xs, split, ib, ind, col, first, nla => by
      obtain ⟨w, core, e, hw, hcore⟩ := encVal_loose o ho x (some ⟨false, split, first, ib⟩) ind col
      have hrest := encElems_loose o ho xs split ib ind (encVal o (some ⟨false, split, first, ib⟩) ind col x).col false
        (nla || (encVal o (some ⟨false, split, first, ib⟩) ind col x).nla)
      obtain ⟨w1, w2, e12, h1, h2⟩ := comma_sepL o first w hw
      refine ⟨w1, w2, core, _, ?_, h1, h2, hcore, hrest⟩
      simp only [encElems, e, ← e12, elemComma, List.append_assoc]
      cases first <;> rfl
  theorem encMembers_loose (o : PrettyOpts) (ho : WsLayout o) : ∀ (ms : List (Bytes × JT)) (split : Nat) (ind col : Nat) (first nla : Bool) (dp : Nat),
      LooseMembers o.solidus ms first (encMembers o split ind col first nla dp ms).out
    | [], _, _, _, _, _, _ => by simp [encMembers, LooseMembers]
    | (k, x) :: ms, split, ind, col, first, nla, dp => by
      obtain ⟨a3, b3, e3, ha3, hb3⟩ := spaced_split o.colon 58
      obtain ⟨W, c1, nla1, dp1, hW, eq⟩ := encMembers_cons o ho split ind col first nla dp k x ms
      obtain ⟨w, core, e, hw, hcore⟩ := encVal_loose o ho x (some ⟨true, split, first, false⟩) ind c1
      have hrest := encMembers_loose o ho ms split ind (encVal o (some ⟨true, split, first, false⟩) ind c1 x).col false nla1 dp1
      obtain ⟨w1, w2, e12, h1, h2⟩ := comma_sepL o first W hW
      refine ⟨w1, w2, a3, b3 ++ w, core, _, ?_, h1, h2, ha3, allWs_append hb3 hw, hcore, hrest⟩
      rw [eq, e, ← e12]
      simp [elemComma, colonStr, e3]
end

theorem strip_sepL (first : Bool) (w1 w2 r : Bytes) (h1 : AllWs w1) (h2 : AllWs w2) :
    strip .out (sepL first w1 w2 ++ r) = sep first ++ strip .out r := by
  cases first
  · simp only [sepL, sep, Bool.false_eq_true, if_false, List.append_assoc, List.cons_append]
    rw [strip_ws _ _ h1, strip_punct 44 _ (by decide), strip_ws _ _ h2]
    rfl
  · simp only [sepL, sep, if_true, List.append_assoc, List.nil_append]
    rw [strip_ws _ _ h1, strip_ws _ _ h2]

mutual
  theorem strip_loose (sol : Bool) : ∀ (v : JT) (s r : Bytes), Loose sol v s → plainNums v = true →
      strip .out (s ++ r) = compactS sol v ++ strip .out r
    | .null, _, r => fun hl _ => by cases hl; exact strip_plain _ r plain_lits.1
    | .bool true, _, r => fun hl _ => by cases hl; exact strip_plain _ r plain_lits.2.1
    | .bool false, _, r => fun hl _ => by cases hl; exact strip_plain _ r plain_lits.2.2
    | .num lit, _, r => fun hl h => by cases hl; exact strip_plain _ r (plain_num lit h)
    | .str t, _, r => fun hl _ => by cases hl; exact strip_strLit sol t r
    | .arr xs, _, r => fun hl h => by
      obtain ⟨body, w, rfl, hw, hb⟩ := hl
      have hx : plainNumsList xs = true := by simpa only [plainNums] using h
      simp only [compactS, List.cons_append, List.append_assoc]
      rw [strip_punct 91 _ (by decide), strip_looseElems sol xs true body _ hb hx, strip_ws _ _ hw, strip_punct 93 _ (by decide)]
      rfl
    | .obj ms, _, r => fun hl h => by
      obtain ⟨body, w, rfl, hw, hb⟩ := hl
      have hx : plainNumsMembers ms = true := by simpa only [plainNums] using h
      simp only [compactS, List.cons_append, List.append_assoc]
      rw [strip_punct 123 _ (by decide), strip_looseMembers sol ms true body _ hb hx, strip_ws _ _ hw, strip_punct 125 _ (by decide)]
      rfl
  theorem strip_looseElems (sol : Bool) : ∀ (xs : List JT) (first : Bool) (s r : Bytes), LooseElems sol xs first s →
      plainNumsList xs = true → strip .out (s ++ r) = compactElems sol first xs ++ strip .out r
    | [], _, _, r => fun hl _ => by cases hl; rfl
    | x :: xs, first, _, r => fun hl h => by
      obtain ⟨w1, w2, core, rest, rfl, h1, h2, hc, hr⟩ := hl
      have hx : plainNums x = true ∧ plainNumsList xs = true := by simpa [plainNumsList] using h
      simp only [compactElems, List.append_assoc]
      rw [strip_sepL _ _ _ _ h1 h2, strip_loose sol x core _ hc hx.1, strip_looseElems sol xs false rest r hr hx.2]
  theorem strip_looseMembers (sol : Bool) : ∀ (ms : List (Bytes × JT)) (first : Bool) (s r : Bytes), LooseMembers sol ms first s →
      plainNumsMembers ms = true → strip .out (s ++ r) = compactMembers sol first ms ++ strip .out r
    | [], _, _, r => fun hl _ => by cases hl; rfl
    | (k, x) :: ms, first, _, r => fun hl h => by
      obtain ⟨w1, w2, w3, w4, core, rest, rfl, h1, h2, h3, h4, hc, hr⟩ := hl
      have hx : plainNums x = true ∧ plainNumsMembers ms = true := by simpa [plainNumsMembers] using h
      simp only [compactMembers, List.append_assoc, List.cons_append]
      rw [strip_sepL _ _ _ _ h1 h2, strip_strLit, strip_ws _ _ h3, strip_punct 58 _ (by decide), strip_ws _ _ h4,
        strip_loose sol x core _ hc hx.1, strip_looseMembers sol ms false rest r hr hx.2]
end

theorem strip_encElems (o : PrettyOpts) (ho : WsLayout o) : ∀ (xs : List JT) (split : Nat) (ib : Bool) (ind col : Nat)
      (first nla : Bool) (r : Bytes), plainNumsList xs = true →
      strip .out ((encElems o split ib ind col first nla xs).out ++ r) = compactElems o.solidus first xs ++ strip .out r :=
  fun xs split ib ind col first nla r h => strip_looseElems _ xs first _ r (encElems_loose o ho xs split ib ind col first nla) h

theorem strip_encMembers (o : PrettyOpts) (ho : WsLayout o) : ∀ (ms : List (Bytes × JT)) (split : Nat) (ind col : Nat)
      (first nla : Bool) (dp : Nat) (r : Bytes), plainNumsMembers ms = true →
      strip .out ((encMembers o split ind col first nla dp ms).out ++ r) = compactMembers o.solidus first ms ++ strip .out r :=
  fun ms split ind col first nla dp r h => strip_looseMembers _ ms first _ r (encMembers_loose o ho ms split ind col first nla dp) h

/-- `ws` as the parser calls it (fuel = length + 1) stops at the first byte that is neither white space nor a slash -/
theorem skipWs_ws (cm : Bool) : ∀ (w : Bytes) (c : Nat) (cs : Bytes), AllWs w → isWs c = false → c ≠ 47 →
    skipWs cm ((w ++ c :: cs).length + 1) (w ++ c :: cs) = some (c :: cs)
  | [], c, cs, _, h1, h2 => skipWs_stay cm _ c cs h1 h2
  | x :: w, c, cs, hw, h1, h2 => by
    have hx : isWs x = true := hw x (by simp)
    simp only [List.cons_append, List.length_cons, skipWs, hx, if_true]
    exact skipWs_ws cm w c cs (fun y hy => hw y (by simp [hy])) h1 h2

/-- a text that starts with a byte at which `ws` stops and which does not close a container -/
def Starts (t : Bytes) : Prop := ∃ c cs, t = c :: cs ∧ Start c

theorem Starts.append {t : Bytes} (h : Starts t) (r : Bytes) : Starts (t ++ r) := by
  obtain ⟨c, cs, rfl, hc⟩ := h
  exact ⟨c, cs ++ r, rfl, hc⟩

theorem strLit_starts (sol : Bool) (k : Bytes) : Starts (strLit sol k) := ⟨34, _, rfl, by decide⟩

theorem loose_head (sol : Bool) (v : JT) (s : Bytes) (hl : Loose sol v s) (h : WF v) : Starts s := by
  cases v with
  | null => exact ⟨_, _, hl, by decide⟩
  | bool b => cases b <;> exact ⟨_, _, hl, by decide⟩
  | num lit =>
    cases hl
    obtain ⟨c, cs, rfl, hc⟩ := parseNumber_head s s [] (wf_num.mp h)
    exact ⟨c, cs, rfl, (num_head_start hc).1⟩
  | str t => cases hl; exact strLit_starts sol t
  | arr xs => obtain ⟨body, w, rfl, _⟩ := hl; exact ⟨91, _, rfl, by decide⟩
  | obj ms => obtain ⟨body, w, rfl, _⟩ := hl; exact ⟨123, _, rfl, by decide⟩

/-- after white space and a comma or a closing bracket or brace no number text goes on -/
theorem stop_close (w : Bytes) (c : Nat) (rest : Bytes) (hw : AllWs w) (hc : c = 44 ∨ c = 93 ∨ c = 125) : Stop (w ++ c :: rest) := by
  cases w with
  | nil => exact stop_cons c rest (by rcases hc with rfl | rfl | rfl <;> decide)
  | cons x w =>
    have hx : isWs x = true := hw x (by simp)
    simp only [isWs, Bool.or_eq_true, decide_eq_true_eq] at hx
    exact stop_cons x _ (by rcases hx with ((rfl | rfl) | rfl) | rfl <;> decide)

/-- after white space the parser tests for the closing bracket or brace of an empty container or a trailing comma; a byte
    that starts a value is neither -/
theorem Start.ne_close {c : Nat} (h : Start c) : c ≠ 93 ∧ c ≠ 125 := h.2.2

theorem pv_arr_empty (fl : Flags) (fuel d : Nat) (w rest : Bytes) (hw : AllWs w) (hd : d + 1 ≤ fl.maxDepth) :
    parseValue fl (fuel + 1) d (91 :: (w ++ 93 :: rest)) = some (.arr [], rest) := by
  have h : ¬ d + 1 > fl.maxDepth := by omega
  simp only [parseValue, h, if_false, skipWs_ws _ w 93 rest hw (by decide) (by decide)]
  simp

theorem pv_obj_empty (fl : Flags) (fuel d : Nat) (w rest : Bytes) (hw : AllWs w) (hd : d + 1 ≤ fl.maxDepth) :
    parseValue fl (fuel + 1) d (123 :: (w ++ 125 :: rest)) = some (.obj [], rest) := by
  have h : ¬ d + 1 > fl.maxDepth := by omega
  simp only [parseValue, h, if_false, skipWs_ws _ w 125 rest hw (by decide) (by decide)]
  simp

/-! The parser's steps, each on the text it reads: `t` is what follows the white space and starts the next value or member
    name; what the parser makes of `t` is a hypothesis. -/

theorem pv_arr {fl : Flags} {fuel d : Nat} {w t rest : Bytes} {xs : List JT} (hw : AllWs w) (hd : d + 1 ≤ fl.maxDepth)
    (ht : Starts t) (h : parseElems fl fuel (d + 1) t = some (xs, rest)) :
    parseValue fl (fuel + 1) d (91 :: (w ++ t)) = some (.arr xs, rest) := by
  obtain ⟨c, cs, rfl, hc⟩ := ht
  have hd' : ¬ d + 1 > fl.maxDepth := by omega
  simp only [parseValue, hd', if_false, skipWs_ws _ w c cs hw hc.1 hc.2.1]
  simp only [show (91 : Nat) ≠ 123 by decide, if_false, if_true]
  simp [hc.ne_close.1, h]

theorem pv_obj {fl : Flags} {fuel d : Nat} {w t rest : Bytes} {ms : List (Bytes × JT)} (hw : AllWs w) (hd : d + 1 ≤ fl.maxDepth)
    (ht : Starts t) (h : parseMembers fl fuel (d + 1) t = some (ms, rest)) :
    parseValue fl (fuel + 1) d (123 :: (w ++ t)) = some (.obj ms, rest) := by
  obtain ⟨c, cs, rfl, hc⟩ := ht
  have hd' : ¬ d + 1 > fl.maxDepth := by omega
  simp only [parseValue, hd', if_false, if_true, skipWs_ws _ w c cs hw hc.1 hc.2.1]
  simp [hc.ne_close.2, h]

theorem pe_last {fl : Flags} {fuel d : Nat} {s w rest : Bytes} {v : JT} (hw : AllWs w)
    (h : parseValue fl fuel d s = some (v, w ++ 93 :: rest)) : parseElems fl (fuel + 1) d s = some ([v], rest) := by
  simp only [parseElems, h, skipWs_ws _ w 93 rest hw (by decide) (by decide)]

theorem pe_more {fl : Flags} {fuel d : Nat} {s w w2 t rest : Bytes} {v : JT} {vs : List JT} (hw : AllWs w) (hw2 : AllWs w2)
    (ht : Starts t) (h : parseValue fl fuel d s = some (v, w ++ 44 :: (w2 ++ t)))
    (hk : parseElems fl fuel d t = some (vs, rest)) : parseElems fl (fuel + 1) d s = some (v :: vs, rest) := by
  obtain ⟨c, cs, rfl, hc⟩ := ht
  simp only [parseElems, h, skipWs_ws _ w 44 _ hw (by decide) (by decide), skipWs_ws _ w2 c cs hw2 hc.1 hc.2.1]
  simp [hc.ne_close.1, hk]

theorem pm_last {fl : Flags} {fuel d : Nat} {sol : Bool} {k w3 w4 t w rest : Bytes} {v : JT} (hk : validUtf8 k = true)
    (hw3 : AllWs w3) (hw4 : AllWs w4) (hw : AllWs w) (ht : Starts t)
    (h : parseValue fl fuel d t = some (v, w ++ 125 :: rest)) :
    parseMembers fl (fuel + 1) d (strLit sol k ++ (w3 ++ 58 :: (w4 ++ t))) = some ([(k, v)], rest) := by
  obtain ⟨c, cs, rfl, hc⟩ := ht
  simp only [parseMembers, parseString_strLit sol k _ hk, skipWs_ws _ w3 58 _ hw3 (by decide) (by decide),
    skipWs_ws _ w4 c cs hw4 hc.1 hc.2.1, h, skipWs_ws _ w 125 rest hw (by decide) (by decide)]

theorem pm_more {fl : Flags} {fuel d : Nat} {sol : Bool} {k w3 w4 t w w2 t2 rest : Bytes} {v : JT} {ms : List (Bytes × JT)}
    (hk : validUtf8 k = true) (hw3 : AllWs w3) (hw4 : AllWs w4) (hw : AllWs w) (hw2 : AllWs w2) (ht : Starts t) (ht2 : Starts t2)
    (h : parseValue fl fuel d t = some (v, w ++ 44 :: (w2 ++ t2))) (hms : parseMembers fl fuel d t2 = some (ms, rest)) :
    parseMembers fl (fuel + 1) d (strLit sol k ++ (w3 ++ 58 :: (w4 ++ t))) = some ((k, v) :: ms, rest) := by
  obtain ⟨c, cs, rfl, hc⟩ := ht
  obtain ⟨c2, cs2, rfl, hc2⟩ := ht2
  simp only [parseMembers, parseString_strLit sol k _ hk, skipWs_ws _ w3 58 _ hw3 (by decide) (by decide),
    skipWs_ws _ w4 c cs hw4 hc.1 hc.2.1, h, skipWs_ws _ w 44 _ hw (by decide) (by decide),
    skipWs_ws _ w2 c2 cs2 hw2 hc2.1 hc2.2.1]
  simp [hc2.ne_close.2, hms]

/-- the fuel and the depth left for the head and for the tail of a list (`needList`, `depthList` and the like of a cons) -/
theorem max_le_of_succ_le {a b f : Nat} (h : 1 + max a b ≤ f + 1) : a ≤ f ∧ b ≤ f := by omega

theorem add_max_le {d a b m : Nat} (h : d + max a b ≤ m) : d + a ≤ m ∧ d + b ≤ m := by omega

mutual
  theorem val_loose (fl : Flags) (sol : Bool) : ∀ (v : JT) (s rest : Bytes) (fuel d : Nat),
      Loose sol v s → WF v → need v ≤ fuel → d + depth v ≤ fl.maxDepth → Stop rest →
      parseValue fl fuel d (s ++ rest) = some (v, rest)
    | v, _, _, 0, _ => fun _ _ hf _ _ => absurd hf (Nat.not_le_of_gt (need_pos v))
    | .null, _, rest, f + 1, d => fun hl _ _ _ _ => by cases hl; exact (parseValue_scalar_lit fl f d rest).1
    | .bool true, _, rest, f + 1, d => fun hl _ _ _ _ => by cases hl; exact (parseValue_scalar_lit fl f d rest).2.1
    | .bool false, _, rest, f + 1, d => fun hl _ _ _ _ => by cases hl; exact (parseValue_scalar_lit fl f d rest).2.2
    | .num lit, _, rest, f + 1, d => fun hl hw _ _ hr => by cases hl; exact parseValue_num fl f d lit rest (wf_num.mp hw) hr
    | .str t, _, rest, f + 1, d => fun hl hw _ _ _ => by cases hl; exact parseValue_str fl f d sol t rest hw
    | .arr [], _, rest, f + 1, d => fun hl _ _ hd _ => by
      obtain ⟨_, w, rfl, hw, hb⟩ := hl
      cases hb
      simpa using pv_arr_empty fl f d w rest hw (by simpa only [depth, depthList] using hd)
    | .arr (x :: xs), _, rest, f + 1, d => fun hl hw hf hd _ => by
      obtain ⟨_, w, rfl, hww, w1, w2, core, tail, rfl, hw1, hw2, hcore, htail⟩ := hl
      simp only [need, depth] at hf hd
      simp only [sepL, if_true, List.append_assoc, List.cons_append, List.nil_append]
      rw [← List.append_assoc w1]
      exact pv_arr (allWs_append hw1 hw2) (by omega) ((loose_head sol x core hcore (wfList_cons.mp hw).1).append _)
        (elems_loose fl sol (x :: xs) core tail w rest f (d + 1) (by simp) ⟨hcore, htail⟩ hww hw (by omega) (by omega))
    | .obj [], _, rest, f + 1, d => fun hl _ _ hd _ => by
      obtain ⟨_, w, rfl, hw, hb⟩ := hl
      cases hb
      simpa using pv_obj_empty fl f d w rest hw (by simpa only [depth, depthMembers] using hd)
    | .obj ((k, x) :: ms), _, rest, f + 1, d => fun hl hw hf hd _ => by
      obtain ⟨_, w, rfl, hww, w1, w2, w3, w4, core, tail, rfl, hw1, hw2, hw3, hw4, hcore, htail⟩ := hl
      simp only [need, depth] at hf hd
      simp only [sepL, if_true, List.append_assoc, List.cons_append, List.nil_append]
      rw [← List.append_assoc w1]
      exact pv_obj (allWs_append hw1 hw2) (by omega) ((strLit_starts sol k).append _)
        (members_loose fl sol ((k, x) :: ms) w3 w4 core tail w rest f (d + 1) (by simp) ⟨hw3, hw4, hcore, htail⟩ hww hw
          (by omega) (by omega))
  /-- the elements of a non-empty array from its first value on: `core` renders the first element, `tail` the others with
      their commas, `w` is the white space before the closing bracket -/
  theorem elems_loose (fl : Flags) (sol : Bool) : ∀ (xs : List JT) (core tail w rest : Bytes) (fuel d : Nat), xs ≠ [] →
      (match xs with | [] => True | x :: xs' => Loose sol x core ∧ LooseElems sol xs' false tail) → AllWs w →
      wfList xs = true → needList xs ≤ fuel → d + depthList xs ≤ fl.maxDepth →
      parseElems fl fuel d (core ++ (tail ++ (w ++ 93 :: rest))) = some (xs, rest)
    | [], _, _, _, _, _ => fun _ h _ _ _ _ _ => absurd rfl h
    | _ :: _, _, _, _, _, 0 => fun _ _ _ _ _ hf _ => by simp [needList] at hf
    | [x], core, _, w, rest, f + 1 => fun d _ hl hww hw hf hd => by
      obtain ⟨hcore, htail⟩ := hl
      cases htail
      exact pe_last hww (val_loose fl sol x core (w ++ 93 :: rest) f d hcore (wfList_cons.mp hw).1 (max_le_of_succ_le hf).1
        (add_max_le hd).1 (stop_close w 93 rest hww (by simp)))
    | x :: y :: ys, core, _, w, rest, f + 1 => fun d _ hl hww hw hf hd => by
      obtain ⟨hcore, w1, w2, core', tail', rfl, hw1, hw2, hcore', htail'⟩ := hl
      obtain ⟨hwx, hwys⟩ := wfList_cons.mp hw
      obtain ⟨hfx, hfys⟩ := max_le_of_succ_le hf
      obtain ⟨hdx, hdys⟩ := add_max_le hd
      simp only [sepL, Bool.false_eq_true, if_false, List.append_assoc, List.cons_append]
      exact pe_more hw1 hw2 ((loose_head sol y core' hcore' (wfList_cons.mp hwys).1).append _)
        (val_loose fl sol x core _ f d hcore hwx hfx hdx (stop_close w1 44 _ hw1 (by simp)))
        (elems_loose fl sol (y :: ys) core' tail' w rest f d (by simp) ⟨hcore', htail'⟩ hww hwys hfys hdys)
  /-- the members of a non-empty object from its first name on: the name of the first member is followed by `w3`, the
      colon, `w4` and `core`, which renders its value; `tail` renders the other members with their commas, `w` is the
      white space before the closing brace -/
  theorem members_loose (fl : Flags) (sol : Bool) : ∀ (ms : List (Bytes × JT)) (w3 w4 core tail w rest : Bytes) (fuel d : Nat), ms ≠ [] →
      (match ms with | [] => True | (_, x) :: ms' => AllWs w3 ∧ AllWs w4 ∧ Loose sol x core ∧ LooseMembers sol ms' false tail) → AllWs w →
      wfMembers ms = true → needMembers ms ≤ fuel → d + depthMembers ms ≤ fl.maxDepth →
      parseMembers fl fuel d ((match ms with | [] => [] | (k, _) :: _ => strLit sol k) ++ (w3 ++ 58 :: (w4 ++ (core ++ (tail ++ (w ++ 125 :: rest)))))) = some (ms, rest)
    | [], _, _, _, _, _, _, _ => fun _ h _ _ _ _ _ => absurd rfl h
    | _ :: _, _, _, _, _, _, _, 0 => fun _ _ _ _ _ hf _ => by simp [needMembers] at hf
    | [(k, x)], w3, w4, core, _, w, rest, f + 1 => fun d _ hl hww hw hf hd => by
      obtain ⟨hw3, hw4, hcore, htail⟩ := hl
      cases htail
      obtain ⟨hk, hwx, _⟩ := wfMembers_cons.mp hw
      exact pm_last hk hw3 hw4 hww ((loose_head sol x core hcore hwx).append _)
        (val_loose fl sol x core (w ++ 125 :: rest) f d hcore hwx (max_le_of_succ_le hf).1 (add_max_le hd).1
          (stop_close w 125 rest hww (by simp)))
    | (k, x) :: (k2, y) :: ms, w3, w4, core, _, w, rest, f + 1 => fun d _ hl hww hw hf hd => by
      obtain ⟨hw3, hw4, hcore, w1, w2, w3', w4', core', tail', rfl, hw1, hw2, hw3', hw4', hcore', htail'⟩ := hl
      obtain ⟨hk, hwx, hwms⟩ := wfMembers_cons.mp hw
      obtain ⟨hfx, hfms⟩ := max_le_of_succ_le hf
      obtain ⟨hdx, hdms⟩ := add_max_le hd
      simp only [sepL, Bool.false_eq_true, if_false, List.append_assoc, List.cons_append]
      exact pm_more hk hw3 hw4 hw1 hw2 ((loose_head sol x core hcore hwx).append _) ((strLit_starts sol k2).append _)
        (val_loose fl sol x core _ f d hcore hwx hfx hdx (stop_close w1 44 _ hw1 (by simp)))
        (members_loose fl sol ((k2, y) :: ms) w3' w4' core' tail' w rest f d (by simp) ⟨hw3', hw4', hcore', htail'⟩ hww hwms
          hfms hdms)
end

theorem elems_back (fl : Flags) (sol : Bool) : ∀ (xs : List JT) (rest : Bytes) (fuel d : Nat),
    xs ≠ [] → wfList xs = true → needList xs ≤ fuel → d + depthList xs ≤ fl.maxDepth →
    parseElems fl fuel d (compactElems sol true xs ++ 93 :: rest) = some (xs, rest)
  | [], _, _, _, h, _, _, _ => absurd rfl h
  | x :: xs, rest, fuel, d, hne, hw, hf, hd => by
    have h := elems_loose fl sol (x :: xs) (compactS sol x) (compactElems sol false xs) [] rest fuel d hne
      ⟨loose_compactS sol x, looseElems_compact sol xs false⟩ allWs_nil hw hf hd
    simpa [compactElems, sep] using h

theorem members_back (fl : Flags) (sol : Bool) : ∀ (ms : List (Bytes × JT)) (rest : Bytes) (fuel d : Nat),
    ms ≠ [] → wfMembers ms = true → needMembers ms ≤ fuel → d + depthMembers ms ≤ fl.maxDepth →
    parseMembers fl fuel d (compactMembers sol true ms ++ 125 :: rest) = some (ms, rest)
  | [], _, _, _, h, _, _, _ => absurd rfl h
  | (k, x) :: ms, rest, fuel, d, hne, hw, hf, hd => by
    have h := members_loose fl sol ((k, x) :: ms) [] [] (compactS sol x) (compactMembers sol false ms) [] rest fuel d hne
      ⟨allWs_nil, allWs_nil, loose_compactS sol x, looseMembers_compact sol ms false⟩ allWs_nil hw hf hd
    simpa [compactMembers, sep] using h

theorem loose_parses_back (fl : Flags) (sol : Bool) (v : JT) (w core : Bytes) (hww : AllWs w) (hl : Loose sol v core) (hw : WF v)
    (hd : depth v ≤ fl.maxDepth) (hn : need v ≤ core.length) : parseText fl (w ++ core) = some v := by
  obtain ⟨c, cs, rfl, hc⟩ := loose_head sol v core hl hw
  have hv := val_loose fl sol v (c :: cs) [] ((c :: cs).length + 1) 0 hl hw (by omega) (by omega)
    stop_nil
  rw [List.append_nil] at hv
  simp only [parseText, skipWs_ws _ w c cs hww hc.1 hc.2.1, hv, skipWs_nil]

theorem compactS_parses_back (fl : Flags) (sol : Bool) (v : JT) (hw : WF v) (hd : depth v ≤ fl.maxDepth) :
    parseText fl (compactS sol v) = some v :=
  loose_parses_back fl sol v [] _ allWs_nil (loose_compactS sol v) hw hd (need_le_length sol v hw)

theorem strip_length : ∀ (s : Bytes) (m : Mode), (strip m s).length ≤ s.length
  | [], m => by cases m <;> exact Nat.le_refl 0
  | c :: cs, m => by
    cases m <;> simp only [strip] <;> repeat' split
    -- a byte is copied or dropped
    all_goals first | exact Nat.succ_le_succ (strip_length cs _) | exact Nat.le_succ_of_le (strip_length cs _)

theorem pretty_parses_back (fl : Flags) (o : PrettyOpts) (ho : WsLayout o) (v : JT) (hw : WF v) (hd : depth v ≤ fl.maxDepth) :
    parseText fl (pretty o v) = some v := by
  obtain ⟨w, core, e, hww, hcore⟩ := encVal_loose o ho v none 0 0
  have hp : pretty o v = w ++ core := by simpa [pretty, elemComma] using e
  -- the rendering is at least as long as the compact text, which is what remains of it without white space
  have hlen : need v ≤ core.length := by
    have h1 := need_le_length o.solidus v hw
    have h2 := strip_loose o.solidus v core [] hcore (wf_plainNums v hw)
    have h3 := strip_length core .out
    rw [List.append_nil, show strip .out [] = [] from rfl, List.append_nil] at h2
    rw [← h2] at h1
    omega
  rw [hp]
  exact loose_parses_back fl o.solidus v w core hww hcore hw hd hlen

end JsonEncode
end Model
end JV
