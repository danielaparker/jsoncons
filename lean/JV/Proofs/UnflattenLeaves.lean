/-
  JV.Proofs.UnflattenLeaves — what `flatten` emits: the list of (token path, leaf) pairs of a
  document; `flatten` is `try_emplace` of their pointer texts in document order; every path
  resolves (`get`) to the leaf it is paired with.
-/
import JV.Proofs.UnflattenOrder
import JV.Proofs.PointerText
import JV.Proofs.PointerOps
namespace JV
namespace SMap
open Model Model.Pointer Assoc

def pre (t : Bytes) (e : Entry) : Entry := (t :: e.1, e.2)

mutual
  def leaves : JVal → List Entry
    | .arr [] => [([], .arr [])]
    | .arr (x :: xs) => leavesElems 0 (x :: xs)
    | .obj [] => [([], .obj [])]
    | .obj (m :: ms) => leavesMembers (m :: ms)
    | v => [([], v)]
  def leavesElems : Nat → List JVal → List Entry
    | _, [] => []
    | i, x :: xs => (leaves x).map (pre (natDigits i)) ++ leavesElems (i + 1) xs
  def leavesMembers : List (Bytes × JVal) → List Entry
    | [] => []
    | (k, x) :: ms => (leaves x).map (pre k) ++ leavesMembers ms
end

def strKey (key : Bytes) (e : Entry) : Bytes × JVal := (key ++ Pointer.toString e.1, e.2)

def emplaceStr (key : Bytes) (acc : List (Bytes × JVal)) (es : List Entry) : List (Bytes × JVal) :=
  es.foldl (fun a e => tryEmplace false (key ++ Pointer.toString e.1) e.2 a) acc

theorem emplaceStr_append (key : Bytes) (acc : List (Bytes × JVal)) (a b : List Entry) :
    emplaceStr key acc (a ++ b) = emplaceStr key (emplaceStr key acc a) b := by
  simp [emplaceStr, List.foldl_append]

theorem emplaceStr_pre (key t : Bytes) (acc : List (Bytes × JVal)) (l : List Entry) :
    emplaceStr key acc (l.map (pre t)) = emplaceStr (key ++ 47 :: escapeToken t) acc l := by
  simp only [emplaceStr, List.foldl_map, pre, Pointer.toString, List.append_assoc, List.cons_append]

mutual
  theorem flattenInto_eq : ∀ (d : JVal) (key : Bytes) (acc : List (Bytes × JVal)),
      flattenInto false key d acc = emplaceStr key acc (leaves d)
    | .arr [], key, acc => by simp [flattenInto, leaves, emplaceStr, Pointer.toString]
    | .arr (x :: xs), key, acc => by
      simp only [flattenInto, leaves]
      exact flattenElems_leaves (x :: xs) 0 key acc
    | .obj [], key, acc => by simp [flattenInto, leaves, emplaceStr, Pointer.toString]
    | .obj (m :: ms), key, acc => by
      simp only [flattenInto, leaves]
      exact flattenMembers_leaves (m :: ms) key acc
    | .null, key, acc | .bool _, key, acc | .int _, key, acc | .str _, key, acc =>
      by simp [flattenInto, leaves, emplaceStr, Pointer.toString]
  theorem flattenElems_leaves : ∀ (xs : List JVal) (i : Nat) (key : Bytes) (acc : List (Bytes × JVal)),
      flattenElems false key i xs acc = emplaceStr key acc (leavesElems i xs)
    | [], i, key, acc => by simp [flattenElems, leavesElems, emplaceStr]
    | x :: xs, i, key, acc => by
      simp only [flattenElems, leavesElems]
      rw [emplaceStr_append, emplaceStr_pre, escapeToken_natDigits i, flattenInto_eq x _ acc]
      exact flattenElems_leaves xs (i + 1) key _
  theorem flattenMembers_leaves : ∀ (ms : List (Bytes × JVal)) (key : Bytes) (acc : List (Bytes × JVal)),
      flattenMembers false key ms acc = emplaceStr key acc (leavesMembers ms)
    | [], key, acc => by simp [flattenMembers, leavesMembers, emplaceStr]
    | (k, x) :: ms, key, acc => by
      simp only [flattenMembers, leavesMembers]
      rw [emplaceStr_append, emplaceStr_pre, flattenInto_eq x _ acc]
      exact flattenMembers_leaves ms key _
end

theorem flattenElems_eq : ∀ (xs : List JVal) (i : Nat) (key : Bytes) (acc : List (Bytes × JVal)), SmallList xs →
      i + xs.length < 2 ^ 64 + 1 →
      flattenElems false key i xs acc = emplaceStr key acc (leavesElems i xs) :=
  fun xs i key acc _ _ => flattenElems_leaves xs i key acc

theorem flattenMembers_eq : ∀ (ms : List (Bytes × JVal)) (key : Bytes) (acc : List (Bytes × JVal)), SmallMembers ms →
      flattenMembers false key ms acc = emplaceStr key acc (leavesMembers ms) :=
  fun ms key acc _ => flattenMembers_leaves ms key acc

mutual
  theorem leaves_resolve : ∀ (d : JVal), JVal.WF d → SmallArrays d → ∀ e ∈ leaves d, Pointer.get d e.1 = .ok e.2
    | .arr [], _, _, e, he => by simp [leaves] at he; subst he; simp [Pointer.get]
    | .arr (x :: xs), hw, hs, e, he => by
      simp only [leaves] at he
      exact leavesElems_resolve (x :: xs) 0 (x :: xs) hw hs.2 rfl hs.1 e he
    | .obj [], _, _, e, he => by simp [leaves] at he; subst he; simp [Pointer.get]
    | .obj (m :: ms), hw, hs, e, he => by
      simp only [leaves] at he
      have hw' : Assoc.Sorted (m :: ms) ∧ WFMembers (m :: ms) := hw
      exact leavesMembers_resolve (m :: ms) (m :: ms) hw'.2 (by simpa [SmallArrays] using hs)
        (sorted_iff_ssorted.1 hw'.1) (fun _ h => h) e he
    | .null, _, _, e, he | .bool _, _, _, e, he | .int _, _, _, e, he | .str _, _, _, e, he =>
      by simp [leaves] at he; subst he; simp [Pointer.get]
  theorem leavesElems_resolve : ∀ (xs : List JVal) (i : Nat) (full : List JVal), WFList xs → SmallList xs →
      full.drop i = xs → full.length < 2 ^ 64 → ∀ e ∈ leavesElems i xs, Pointer.get (.arr full) e.1 = .ok e.2
    | [], _, _, _, _, _, _, e, he => by simp [leavesElems] at he
    | x :: xs, i, full, hw, hs, hd, hl, e, he => by
      simp only [leavesElems] at he
      have hi : i < full.length := by
        have : (full.drop i).length = (x :: xs).length := by rw [hd]
        simp at this; omega
      have hx : full[i]? = some x := by
        have := List.getElem?_drop (xs := full) (i := i) (j := 0)
        rw [hd] at this; simpa using this.symm
      rcases List.mem_append.1 he with h | h
      · obtain ⟨e', he', rfl⟩ := List.mem_map.1 h
        have ih := leaves_resolve x hw.1 hs.1 e' he'
        simp only [pre, Pointer.get, isDash_natDigits i, Bool.false_eq_true, if_false,
          decToIndex_natDigits i (by omega), hx]
        exact ih
      · have hd' : full.drop (i + 1) = xs := by
          have : full.drop (i + 1) = (full.drop i).drop 1 := by simp [List.drop_drop]
          rw [this, hd]; rfl
        exact leavesElems_resolve xs (i + 1) full hw.2 hs.2 hd' hl e h
  theorem leavesMembers_resolve : ∀ (ms full : List (Bytes × JVal)), WFMembers ms → SmallMembers ms →
      SSorted keyLt full → (∀ kv ∈ ms, kv ∈ full) → ∀ e ∈ leavesMembers ms, Pointer.get (.obj full) e.1 = .ok e.2
    | [], _, _, _, _, _, e, he => by simp [leavesMembers] at he
    | (k, x) :: ms, full, hw, hs, hf, hsub, e, he => by
      simp only [leavesMembers] at he
      rcases List.mem_append.1 he with h | h
      · obtain ⟨e', he', rfl⟩ := List.mem_map.1 h
        have ih := leaves_resolve x hw.1 hs.1 e' he'
        have hfind := find_of_mem (sorted_of_ssorted hf) (hsub (k, x) List.mem_cons_self)
        simp only [pre, Pointer.get, hfind]
        exact ih
      · exact leavesMembers_resolve ms full hw.2 hs.2 hf (fun kv hkv => hsub kv (List.mem_cons_of_mem _ hkv)) e h
end

theorem leaves_functional (d : JVal) (hw : JVal.WF d) (hs : SmallArrays d) : Functional (leaves d) := by
  intro p v v' h1 h2
  have a := leaves_resolve d hw hs _ h1
  have b := leaves_resolve d hw hs _ h2
  simp only [] at a b
  rw [a] at b
  cases b; rfl

end SMap
end JV
