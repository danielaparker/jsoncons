/-
  JV.Proofs.Utf8 — the strings the reference grammar accepts are exactly the UTF-8 encodings of
  sequences of Unicode scalar values.
-/
import JV.Spec.Rfc8259
namespace JV
namespace Spec.Rfc8259

def IsScalar (cp : Nat) : Prop := cp < 0xD800 ∨ (0xE000 ≤ cp ∧ cp < 0x110000)

def encodeAll : List Nat → Bytes
  | [] => []
  | cp :: cps => utf8Encode cp ++ encodeAll cps

theorem validUtf8_ascii {a : Nat} (h : a < 0x80) (r : Bytes) : validUtf8 (a :: r) = validUtf8 r := by
  rw [validUtf8.eq_def]; exact if_pos h

theorem validUtf8_badLead {a : Nat} (h1 : 0x80 ≤ a) (h2 : a < 0xC2 ∨ 0xF4 < a) (rest : Bytes) : validUtf8 (a :: rest) = false := by
  rw [validUtf8.eq_def]
  exact (if_neg (by omega)).trans <| (if_neg (by omega)).trans <| (if_neg (by omega)).trans <| if_neg (by omega)

/-! The arithmetic side conditions are collected in the first conjunct, so that `omega` can produce or consume them in one piece. -/
theorem validUtf8_lead2 {a : Nat} (h1 : 0x80 ≤ a) (h2 : a < 0xE0) (b : Nat) (r : Bytes) :
    validUtf8 (a :: b :: r) = true ↔ (0xC2 ≤ a ∧ 0x80 ≤ b ∧ b ≤ 0xBF) ∧ validUtf8 r = true := by
  by_cases h : 0xC2 ≤ a
  · rw [validUtf8.eq_def]
    simp only [if_neg (show ¬ a < 0x80 by omega), if_pos (show 0xC2 ≤ a ∧ a ≤ 0xDF by omega), Bool.and_eq_true, decide_eq_true_eq]
    exact and_congr_left' (by omega)
  · rw [validUtf8_badLead h1 (by omega)]
    exact iff_of_false nofun (fun h' => h h'.1.1)

theorem validUtf8_lead3 {a : Nat} (h1 : 0xE0 ≤ a) (h2 : a < 0xF0) (b c : Nat) (r : Bytes) :
    validUtf8 (a :: b :: c :: r) = true ↔
      ((a = 0xE0 → 0xA0 ≤ b) ∧ (a = 0xED → b ≤ 0x9F) ∧ 0x80 ≤ b ∧ b ≤ 0xBF ∧ 0x80 ≤ c ∧ c ≤ 0xBF) ∧ validUtf8 r = true := by
  rw [validUtf8.eq_def]
  simp only [if_neg (show ¬ a < 0x80 by omega), if_neg (show ¬ (0xC2 ≤ a ∧ a ≤ 0xDF) by omega), if_pos (show 0xE0 ≤ a ∧ a ≤ 0xEF by omega),
    Bool.and_eq_true, decide_eq_true_eq]
  refine and_congr_left' ?_
  split <;> split <;> omega

theorem validUtf8_lead4 {a : Nat} (h1 : 0xF0 ≤ a) (b c d : Nat) (r : Bytes) :
    validUtf8 (a :: b :: c :: d :: r) = true ↔
      (a ≤ 0xF4 ∧ (a = 0xF0 → 0x90 ≤ b) ∧ (a = 0xF4 → b ≤ 0x8F) ∧ 0x80 ≤ b ∧ b ≤ 0xBF ∧ 0x80 ≤ c ∧ c ≤ 0xBF ∧ 0x80 ≤ d ∧ d ≤ 0xBF) ∧
        validUtf8 r = true := by
  by_cases h : a ≤ 0xF4
  · rw [validUtf8.eq_def]
    simp only [if_neg (show ¬ a < 0x80 by omega), if_neg (show ¬ (0xC2 ≤ a ∧ a ≤ 0xDF) by omega), if_neg (show ¬ (0xE0 ≤ a ∧ a ≤ 0xEF) by omega),
      if_pos (show 0xF0 ≤ a ∧ a ≤ 0xF4 by omega), Bool.and_eq_true, decide_eq_true_eq]
    refine and_congr_left' ?_
    split <;> split <;> omega
  · rw [validUtf8_badLead (by omega) (by omega)]
    exact iff_of_false nofun (fun h' => h h'.1.1)

theorem validUtf8_single {a : Nat} (h : 0x80 ≤ a) : validUtf8 [a] = false := by
  rw [validUtf8.eq_def]
  simp only [if_neg (show ¬ a < 0x80 by omega), ite_self]

theorem validUtf8_short3 {a : Nat} {rest : Bytes} (h1 : 0xE0 ≤ a) (h2 : a < 0xF0) (hr : ∀ b c r, rest = b :: c :: r → False) :
    validUtf8 (a :: rest) = false := by
  rw [validUtf8.eq_def]
  simp only [if_neg (show ¬ a < 0x80 by omega), if_neg (show ¬ (0xC2 ≤ a ∧ a ≤ 0xDF) by omega), if_pos (show 0xE0 ≤ a ∧ a ≤ 0xEF by omega)]

theorem validUtf8_short4 {a : Nat} {rest : Bytes} (h1 : 0xF0 ≤ a) (hr : ∀ b c d r, rest = b :: c :: d :: r → False) :
    validUtf8 (a :: rest) = false := by
  rw [validUtf8.eq_def]
  simp only [if_neg (show ¬ a < 0x80 by omega), if_neg (show ¬ (0xC2 ≤ a ∧ a ≤ 0xDF) by omega), if_neg (show ¬ (0xE0 ≤ a ∧ a ≤ 0xEF) by omega), ite_self]

theorem utf8Encode_two {cp : Nat} (h1 : 0x80 ≤ cp) (h2 : cp < 0x800) : utf8Encode cp = [0xC0 + cp / 64, 0x80 + cp % 64] := by
  unfold utf8Encode
  rw [if_neg (by omega), if_pos h2]

theorem utf8Encode_three {cp : Nat} (h1 : 0x800 ≤ cp) (h2 : cp < 0x10000) :
    utf8Encode cp = [0xE0 + cp / 4096, 0x80 + cp / 64 % 64, 0x80 + cp % 64] := by
  unfold utf8Encode
  rw [if_neg (by omega), if_neg (by omega), if_pos h2]

theorem utf8Encode_four {cp : Nat} (h : 0x10000 ≤ cp) :
    utf8Encode cp = [0xF0 + cp / 262144, 0x80 + cp / 4096 % 64, 0x80 + cp / 64 % 64, 0x80 + cp % 64] := by
  unfold utf8Encode
  rw [if_neg (by omega), if_neg (by omega), if_neg (by omega)]

theorem validUtf8_encode (cp : Nat) (h : IsScalar cp) (rest : Bytes) :
    validUtf8 (utf8Encode cp ++ rest) = validUtf8 rest := by
  unfold IsScalar at h
  by_cases h1 : cp < 0x80
  · rw [utf8Encode, if_pos h1]; exact validUtf8_ascii h1 rest
  apply Bool.eq_iff_iff.2
  by_cases h2 : cp < 0x800
  · rw [utf8Encode_two (by omega) h2]
    exact (validUtf8_lead2 (by omega) (by omega) _ _).trans ⟨And.right, fun hv => ⟨by omega, hv⟩⟩
  by_cases h3 : cp < 0x10000
  · rw [utf8Encode_three (by omega) h3]
    exact (validUtf8_lead3 (by omega) (by omega) _ _ _).trans ⟨And.right, fun hv => ⟨by omega, hv⟩⟩
  · rw [utf8Encode_four (by omega)]
    exact (validUtf8_lead4 (by omega) _ _ _ _).trans ⟨And.right, fun hv => ⟨by omega, hv⟩⟩

theorem validUtf8_encodeAll : ∀ (cps : List Nat), (∀ cp ∈ cps, IsScalar cp) → validUtf8 (encodeAll cps) = true
  | [], _ => rfl
  | cp :: cps, h => by
    rw [encodeAll, validUtf8_encode cp (h cp List.mem_cons_self)]
    exact validUtf8_encodeAll cps (fun c hc => h c (List.mem_cons_of_mem _ hc))

theorem exists_scalar_lead2 {a b : Nat} (h1 : a < 0xE0) (h : 0xC2 ≤ a ∧ 0x80 ≤ b ∧ b ≤ 0xBF) :
    ∃ cp, IsScalar cp ∧ utf8Encode cp = [a, b] := by
  obtain ⟨x, rfl⟩ := Nat.exists_eq_add_of_le h.1
  obtain ⟨y, rfl⟩ := Nat.exists_eq_add_of_le h.2.1
  refine ⟨(2 + x) * 64 + y, Or.inl (by omega), ?_⟩
  rw [utf8Encode_two (by omega) (by omega)]
  simp only [List.cons.injEq, and_true]
  omega

theorem exists_scalar_lead3 {a b c : Nat} (h1 : 0xE0 ≤ a) (h2 : a < 0xF0)
    (h : (a = 0xE0 → 0xA0 ≤ b) ∧ (a = 0xED → b ≤ 0x9F) ∧ 0x80 ≤ b ∧ b ≤ 0xBF ∧ 0x80 ≤ c ∧ c ≤ 0xBF) :
    ∃ cp, IsScalar cp ∧ utf8Encode cp = [a, b, c] := by
  obtain ⟨x, rfl⟩ := Nat.exists_eq_add_of_le h1
  obtain ⟨y, rfl⟩ := Nat.exists_eq_add_of_le h.2.2.1
  obtain ⟨z, rfl⟩ := Nat.exists_eq_add_of_le h.2.2.2.2.1
  refine ⟨(x * 64 + y) * 64 + z, by unfold IsScalar; omega, ?_⟩
  rw [utf8Encode_three (by omega) (by omega)]
  simp only [List.cons.injEq, and_true]
  omega

theorem exists_scalar_lead4 {a b c d : Nat} (h1 : 0xF0 ≤ a)
    (h : a ≤ 0xF4 ∧ (a = 0xF0 → 0x90 ≤ b) ∧ (a = 0xF4 → b ≤ 0x8F) ∧ 0x80 ≤ b ∧ b ≤ 0xBF ∧ 0x80 ≤ c ∧ c ≤ 0xBF ∧ 0x80 ≤ d ∧ d ≤ 0xBF) :
    ∃ cp, IsScalar cp ∧ utf8Encode cp = [a, b, c, d] := by
  obtain ⟨x, rfl⟩ := Nat.exists_eq_add_of_le h1
  obtain ⟨y, rfl⟩ := Nat.exists_eq_add_of_le h.2.2.2.1
  obtain ⟨z, rfl⟩ := Nat.exists_eq_add_of_le h.2.2.2.2.2.1
  obtain ⟨w, rfl⟩ := Nat.exists_eq_add_of_le h.2.2.2.2.2.2.2.1
  refine ⟨((x * 64 + y) * 64 + z) * 64 + w, Or.inr (by omega), ?_⟩
  rw [utf8Encode_four (by omega)]
  simp only [List.cons.injEq, and_true]
  omega

theorem encodeAll_cons_exists {bs r : Bytes} :
    (∃ cp, IsScalar cp ∧ utf8Encode cp = bs) → (∃ cps, (∀ c ∈ cps, IsScalar c) ∧ r = encodeAll cps) →
      ∃ cps, (∀ c ∈ cps, IsScalar c) ∧ bs ++ r = encodeAll cps
  | ⟨cp, hcp, he⟩, ⟨cps, hs, hr⟩ => ⟨cp :: cps, List.forall_mem_cons.2 ⟨hcp, hs⟩, by rw [hr, ← he]; rfl⟩

theorem validUtf8_decode : ∀ (n : Nat) (bs : Bytes), bs.length ≤ n → validUtf8 bs = true →
    ∃ cps, (∀ cp ∈ cps, IsScalar cp) ∧ bs = encodeAll cps
  | _, [], _, _ => ⟨[], nofun, rfl⟩
  | 0, _ :: _, h, _ => by simp at h
  | n + 1, a :: rest, hl, hv => by
    have hl' : rest.length ≤ n := Nat.le_of_succ_le_succ hl
    by_cases h1 : a < 0x80
    · rw [validUtf8_ascii h1] at hv
      exact encodeAll_cons_exists (bs := [a]) ⟨a, Or.inl (by omega), if_pos h1⟩ (validUtf8_decode n rest hl' hv)
    by_cases h2 : a < 0xE0
    · match rest, hl', hv with
      | [], _, hv => rw [validUtf8_single (by omega)] at hv; cases hv
      | b :: r, hl', hv =>
        rw [validUtf8_lead2 (by omega) h2] at hv
        exact encodeAll_cons_exists (bs := [a, b]) (exists_scalar_lead2 h2 hv.1) (validUtf8_decode n r (Nat.le_of_succ_le hl') hv.2)
    by_cases h3 : a < 0xF0
    · match rest, hl', hv with
      | b :: c :: r, hl', hv =>
        rw [validUtf8_lead3 (by omega) h3] at hv
        exact encodeAll_cons_exists (bs := [a, b, c]) (exists_scalar_lead3 (by omega) h3 hv.1)
          (validUtf8_decode n r (by simp only [List.length_cons] at hl'; omega) hv.2)
      | [], _, hv | [_], _, hv => rw [validUtf8_short3 (by omega) h3 (by simp)] at hv; cases hv
    · match rest, hl', hv with
      | b :: c :: d :: r, hl', hv =>
        rw [validUtf8_lead4 (by omega)] at hv
        exact encodeAll_cons_exists (bs := [a, b, c, d]) (exists_scalar_lead4 (by omega) hv.1)
          (validUtf8_decode n r (by simp only [List.length_cons] at hl'; omega) hv.2)
      | [], _, hv | [_], _, hv | [_, _], _, hv => rw [validUtf8_short4 (by omega) (by simp)] at hv; cases hv

end Spec.Rfc8259
end JV
