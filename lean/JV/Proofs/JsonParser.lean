/-
  JV.Proofs.JsonParser — the parser state-machine model, one step at a time: `validate` against RFC 3629, the frame lemmas (what a
  step may change), the equations of the cells, and the induction principle that lifts an invariant of one step through `feedChar`
  and `feed`.
-/
import JV.Model.JsonParser
import JV.Proofs.Utf8
import JV.Proofs.JsonReference
namespace JV
namespace Model
namespace JsonParser
open Spec.Rfc8259 (isWs)

theorem feed_cons (cfg : Cfg) (s : St) (c : Nat) (cs : Bytes) : feed cfg s (c :: cs) = feed cfg (feedChar cfg s c) cs := rfl
theorem feed_nil (cfg : Cfg) (s : St) : feed cfg s [] = s := rfl

theorem feed_append (cfg : Cfg) (s : St) (a b : Bytes) : feed cfg s (a ++ b) = feed cfg (feed cfg s a) b := by
  simp [feed, List.foldl_append]

theorem feed_chunks (cfg : Cfg) (chunks : List Bytes) (s : St) :
    chunks.foldl (feed cfg) s = feed cfg s chunks.flatten := by
  induction chunks generalizing s with
  | nil => simp [feed]
  | cons c cs ih => simp [List.flatten_cons, feed_append, ih]

theorem feedChar_err (cfg : Cfg) (s : St) (c : Nat) (h : s.err.isSome) : feedChar cfg s c = s := by
  simp [feedChar, h]

theorem feed_err (cfg : Cfg) (s : St) (bs : Bytes) (h : s.err.isSome) : feed cfg s bs = s := by
  induction bs with
  | nil => rfl
  | cons c cs ih => simp only [feed, List.foldl_cons, feedChar_err cfg s c h] at *; exact ih

theorem isCont_iff (b : Nat) : isCont b = true ↔ (128 ≤ b ∧ b ≤ 191) := by
  simp only [isCont, decide_eq_true_eq]; omega
theorem isCont_false (b : Nat) : isCont b = false ↔ ¬ (128 ≤ b ∧ b ≤ 191) := by
  rw [← isCont_iff, Bool.not_eq_true]

open Spec.Rfc8259 in
theorem validate_iff (bs : Bytes) : validate bs = none ↔ validUtf8 bs = true := by
  -- the cases are the branches of `validate` in the order of its text; in each the reference is evaluated by the lemma for
  -- the lead-byte class, and what is left is a comparison of byte ranges
  fun_induction validate bs
  all_goals try simp only [Bool.not_eq_true', isCont_false] at *
  case case1 => simp only [validUtf8]
  case case2 h ih => rw [validUtf8_ascii h]; exact ih
  -- a continuation byte 80-BF in lead position (3); the five- and six-byte leads F8-FB (22, 23) and FC-FF (24, 25)
  case case3 | case22 | case23 | case24 | case25 =>
    rw [validUtf8_badLead (by omega) (by omega)]; exact iff_of_false nofun nofun
  -- lead C0-DF: second byte no continuation (4), overlong C0/C1 (5), accepted (6), text ends after the lead (7)
  case case4 | case5 =>
    rw [validUtf8_lead2 (by omega) (by omega)]; exact iff_of_false nofun (fun h => by omega)
  case case6 ih _ =>
    rw [validUtf8_lead2 (by omega) (by omega), ih]; exact ⟨fun h => ⟨by omega, h⟩, And.right⟩
  case case7 => rw [validUtf8_single (by omega)]; exact iff_of_false nofun nofun
  -- lead E0-EF: third or second byte no continuation (8, 9), overlong after E0 (10), surrogate after ED (11), accepted (12),
  -- fewer than two bytes follow (13)
  case case8 | case9 | case10 | case11 =>
    rw [validUtf8_lead3 (by omega) (by omega)]; exact iff_of_false nofun (fun h => by omega)
  case case12 ih _ _ =>
    rw [validUtf8_lead3 (by omega) (by omega), ih]; exact ⟨fun h => ⟨by omega, h⟩, And.right⟩
  case case13 hr => rw [validUtf8_short3 (by omega) (by omega) hr]; exact iff_of_false nofun nofun
  -- lead F0-F7: a byte that is no continuation (14-16), overlong after F0 (17), above U+10FFFF after F4 (18) or by the lead
  -- F5-F7 (19), accepted (20), fewer than three bytes follow (21)
  case case14 | case15 | case16 | case17 | case18 | case19 =>
    rw [validUtf8_lead4 (by omega)]; exact iff_of_false nofun (fun h => by omega)
  case case20 ih _ _ _ =>
    rw [validUtf8_lead4 (by omega), ih]; exact ⟨fun h => ⟨by omega, h⟩, And.right⟩
  case case21 hr => rw [validUtf8_short4 (by omega) hr]; exact iff_of_false nofun nofun

/-! Each frame lemma is a case analysis of one step function, stated once for an arbitrary property `P` of the next state: the next
state is the failed state, one of the named continuations (`endString s`, `endObject s`, …), or a state that agrees with `s`, or
with `s` after a jump or a push, on every field but the scratch fields of the string and number sub-automata. -/

/-- `s'` differs from `s` at most in `buf`, `cp`, `cp2`, `ss`, `ns`, `noesc` -/
def SameControl (s s' : St) : Prop :=
  s'.st = s.st ∧ s'.stack = s.stack ∧ s'.level = s.level ∧ s'.evs = s.evs ∧ s'.err = s.err

theorem SameControl.rfl {s : St} : SameControl s s := ⟨.refl _, .refl _, .refl _, .refl _, .refl _⟩

/-- Takes one `if` off the top of a chain (the `split` tactic simplifies the whole remaining chain again at every level).
    Use under `with_reducible`: otherwise the unifier unfolds a continuation such as `endObject s` to find an `if` in it. -/
theorem ite_cases {α : Sort _} {P : α → Prop} {p : Prop} [Decidable p] {a b : α} (ha : p → P a) (hb : ¬ p → P b) :
    P (if p then a else b) :=
  if h : p then (if_pos h).symm ▸ ha h else (if_neg h).symm ▸ hb h

theorem ite_fst_cases {α β : Type _} {P : α → Prop} {p : Prop} [Decidable p] {a b : α × β} (ha : p → P a.1) (hb : ¬ p → P b.1) :
    P (if p then a else b).1 :=
  ite_cases (P := fun r : α × β => P r.1) ha hb

section
variable {s : St} {P : St → Prop}

theorem hexStep_frame (hf : ∀ k, P (fail s k)) {k : St → Nat → St} (hk : ∀ v, P (k s v)) (c : Nat) (first : Bool) :
    P (hexStep s c first k) := by
  unfold hexStep; cases hexVal c
  · exact hf _
  · exact hk _

theorem hexStep2_frame (hf : ∀ k, P (fail s k)) {k : St → Nat → St} (hk : ∀ v, P (k s v)) (c : Nat) (first : Bool) :
    P (hexStep2 s c first k) := by
  unfold hexStep2; cases hexVal c
  · exact hf _
  · exact hk _

theorem stepString_frame (hf : ∀ k, P (fail s k)) (he : P (endString s))
    (hs : ∀ s', SameControl s s' → P s') (c : Nat) : P (stepString s c) := by
  unfold stepString
  cases s.ss <;> dsimp only
  case u1 | u2 | u3 | u4 =>
    refine hexStep_frame hf (fun v => ?_) c _
    repeat' with_reducible refine ite_cases (P := P) (fun _ => ?_) (fun _ => ?_)
    all_goals exact hs _ ⟨rfl, rfl, rfl, rfl, rfl⟩
  case u5 | u6 | u7 | u8 => exact hexStep2_frame hf (fun v => hs _ ⟨rfl, rfl, rfl, rfl, rfl⟩) c _
  all_goals repeat' with_reducible refine ite_cases (P := P) (fun _ => ?_) (fun _ => ?_)
  all_goals first | exact hf _ | exact he | exact hs _ ⟨rfl, rfl, rfl, rfl, rfl⟩

theorem stepNumber_frame (hf : ∀ k, P (fail s k)) (hi : P (endInteger s)) (hr : P (endFraction s))
    (hs : ∀ s', SameControl s s' → P s') (c : Nat) : P (stepNumber s c).1 := by
  unfold stepNumber
  cases s.ns <;> dsimp only
  all_goals repeat' with_reducible refine ite_fst_cases (fun _ => ?_) (fun _ => ?_)
  all_goals first | exact hf _ | exact hi | exact hr | exact hs _ ⟨rfl, rfl, rfl, rfl, rfl⟩

theorem spaceOrSlash_frame {c : Nat} (h0 : P s) (hcr : P { (push s s.st) with st := .cr })
    (hsl : c = 47 → P { (push s s.st) with st := .slash }) {s' : St} (h : spaceOrSlash s c = some s') : P s' := by
  have : (spaceOrSlash s c).elim True P := by
    unfold spaceOrSlash
    repeat' with_reducible refine ite_cases (P := fun o : Option St => o.elim True P) (fun _ => ?_) (fun _ => ?_)
    all_goals first | exact trivial | exact h0 | exact hcr | exact hsl (by assumption)
  rw [h] at this; exact this

theorem valueStart_frame {cfg : Cfg} {c : Nat} (ho : P (beginObject cfg s)) (ha : P (beginArray cfg s))
    (hg : ∀ p s', SameControl { s with st := p } s' → p ≠ .slash → P s') {s' : St} (h : valueStart cfg s c = some s') : P s' := by
  have : (valueStart cfg s c).elim True P := by
    unfold valueStart startString
    repeat' with_reducible refine ite_cases (P := fun o : Option St => o.elim True P) (fun _ => ?_) (fun _ => ?_)
    all_goals first | exact trivial | exact ho | exact ha | exact hg _ _ ⟨rfl, rfl, rfl, rfl, rfl⟩ (by decide)
  rw [h] at this; exact this

/-- One cell of `parse_some_`. The hypotheses list what the machine can do: fail (`hf`); touch scratch fields only (`hs`); jump to a
    state `p`, never to `slash` (`hg`); suspend the current state (or `memberName`) and go to `p`, to `slash` only on a `/` (`hpush`);
    resume the suspended state (`hpop`); end a string, an integer, a fraction (`hstr`, `hint`, `hfrac`); end a literal with event `e`
    (`hlit`); open or close a container (`hbo`, `hba`, `heo`, `hea`); go on after a comma (`hbm`). -/
theorem stepChar_frame {cfg : Cfg} {c : Nat} (hf : ∀ k, P (fail s k)) (hs : ∀ s', SameControl s s' → P s')
    (hg : ∀ p s', SameControl { s with st := p } s' → p ≠ .slash → P s')
    (hpush : ∀ q p s', SameControl { (push s q) with st := p } s' → q = s.st ∨ q = .memberName → (p = .slash → c = 47) → P s')
    (hpop : P (popTo s)) (hstr : P (endString s)) (hint : P (endInteger s)) (hfrac : P (endFraction s))
    (hlit : ∀ e, P (afterLiteral (emit s e)))
    (hbo : P (beginObject cfg s)) (hba : P (beginArray cfg s)) (heo : P (endObject s)) (hea : P (endArray s))
    (hbm : P (beginMemberOrElement s)) : P (stepChar cfg s c).1 := by
  have sos : ∀ {s'}, spaceOrSlash s c = some s' → P s' :=
    spaceOrSlash_frame (hs s .rfl) (hpush _ _ _ .rfl (.inl rfl) nofun) (fun h => hpush _ _ _ .rfl (.inl rfl) (fun _ => h))
  have vs : ∀ {s'}, valueStart cfg s c = some s' → P s' := valueStart_frame hbo hba hg
  have jump : ∀ {p}, p ≠ .slash → P { s with st := p } := hg _ _ .rfl
  have name : P (startString (push s .memberName)) := hpush _ _ _ ⟨rfl, rfl, rfl, rfl, rfl⟩ (.inr rfl) nofun
  unfold stepChar lit
  cases hst : s.st <;> dsimp only
  case string => exact stepString_frame hf hstr hs c
  case number => exact stepNumber_frame hf hint hfrac hs c
  case t | tr | f | fa | fal | n | nu => exact ite_cases (fun _ => jump nofun) (fun _ => hf _)
  case tru | fals | nul => exact ite_cases (fun _ => hlit _) (fun _ => hf _)
  case slash =>
    refine ite_fst_cases (fun _ => ?_) (fun _ => ite_fst_cases (fun _ => ?_) (fun _ => hf _))
    all_goals exact ite_cases (fun _ => jump nofun) (fun _ => hf _)
  case slashStar =>
    exact ite_fst_cases (fun _ => hpush _ _ _ .rfl (.inl hst.symm) nofun)
      (fun _ => ite_fst_cases (fun _ => jump nofun) (fun _ => hs _ .rfl))
  case slashSlash => exact ite_fst_cases (fun _ => hpop) (fun _ => hs _ .rfl)
  case slashStarStar => exact ite_fst_cases (fun _ => hpop) (fun _ => ite_fst_cases (fun _ => hs _ .rfl) (fun _ => jump nofun))
  case cr => exact ite_fst_cases (fun _ => hpop) (fun _ => hpop)
  case accept | done => exact ite_fst_cases (fun _ => jump nofun) (fun _ => hf _)
  case root | object | array | memberName => exact hf _
  -- left: the seven states that skip white space
  all_goals
    refine ite_fst_cases (fun _ => hf _) (fun _ => ?_)
    cases h1 : spaceOrSlash s c <;> dsimp only
    case some => exact sos h1
  case expectCommaOrEnd =>
    refine ite_fst_cases (fun _ => heo) (fun _ => ite_fst_cases (fun _ => hea) (fun _ => ite_fst_cases (fun _ => hbm) (fun _ => ?_)))
    split <;> exact hf _
  case expectMemberNameOrEnd =>
    exact ite_fst_cases (fun _ => heo) (fun _ => ite_fst_cases (fun _ => name) (fun _ => ite_fst_cases (fun _ => hf _) (fun _ => hf _)))
  case expectMemberName =>
    exact ite_fst_cases (fun _ => name) (fun _ => ite_fst_cases (fun _ => ite_cases (fun _ => heo) (fun _ => hf _))
      (fun _ => ite_fst_cases (fun _ => hf _) (fun _ => hf _)))
  case expectColon => exact ite_fst_cases (fun _ => jump nofun) (fun _ => hf _)
  -- left: the three states in which a value may start
  all_goals
    cases h2 : valueStart cfg s c <;> dsimp only
    case some => exact vs h2
  case start => exact ite_fst_cases (fun _ => hf _) (fun _ => ite_fst_cases (fun _ => hf _) (fun _ => hf _))
  case expectValue =>
    exact ite_fst_cases (fun _ => ite_cases (fun _ => ite_cases (fun _ => hea) (fun _ => hf _)) (fun _ => hf _))
      (fun _ => ite_fst_cases (fun _ => hf _) (fun _ => hf _))
  case expectValueOrEnd => exact ite_fst_cases (fun _ => hea) (fun _ => ite_fst_cases (fun _ => hf _) (fun _ => hf _))
end

/-- the states that skip white space -/
def wsState : PS → Bool
  | .start | .expectCommaOrEnd | .expectMemberNameOrEnd | .expectMemberName | .expectColon | .expectValue | .expectValueOrEnd => true
  | _ => false

/-- the states in which a value may start -/
def vState : PS → Bool
  | .start | .expectValue | .expectValueOrEnd => true
  | _ => false

theorem wsState_cases {p : PS} (h : wsState p = true) : p = .start ∨ p = .expectCommaOrEnd ∨ p = .expectMemberNameOrEnd ∨
    p = .expectMemberName ∨ p = .expectColon ∨ p = .expectValue ∨ p = .expectValueOrEnd := by
  cases p <;> first | exact Bool.noConfusion h | simp

theorem vState_cases {p : PS} (h : vState p = true) : p = .start ∨ p = .expectValue ∨ p = .expectValueOrEnd := by
  cases p <;> first | exact Bool.noConfusion h | simp

theorem vState_ws {p : PS} (h : vState p = true) : wsState p = true := by
  rcases vState_cases h with rfl | rfl | rfl <;> rfl

theorem stepChar_consumed (cfg : Cfg) (s : St) (c : Nat) (h1 : s.st ≠ .number) (h2 : s.st ≠ .slashSlash) (h3 : s.st ≠ .cr) :
    (stepChar cfg s c).2 = true := by
  -- every leaf is a pair `(_, true)`; `split` takes apart the `match`es on the state, `spaceOrSlash`, `valueStart` and `parent`
  unfold stepChar
  split <;> first | contradiction | (
    repeat' first
      | rfl
      | with_reducible refine ite_cases (P := fun r : St × Bool => r.2 = true) (fun _ => ?_) (fun _ => ?_)
      | split)

theorem stepChar_consumed_ws (cfg : Cfg) (s : St) (c : Nat) (hs : wsState s.st = true) : (stepChar cfg s c).2 = true := by
  apply stepChar_consumed <;> (intro h; rw [h] at hs; cases hs)

theorem feedChar_of_consumed (cfg : Cfg) (s : St) (c : Nat) (he : s.err = none) (h : (stepChar cfg s c).2 = true) :
    feedChar cfg s c = (stepChar cfg s c).1 := by
  simp [feedChar, he, h]

theorem feedChar_redispatch (cfg : Cfg) (s s1 : St) (c : Nat) (he : s.err = none) (h : stepChar cfg s c = (s1, false))
    (he1 : s1.err = none) (hc : (stepChar cfg s1 c).2 = true) : feedChar cfg s c = feedChar cfg s1 c := by
  rw [feedChar_of_consumed cfg s1 c he1 hc]
  simp [feedChar, he, h, he1, hc]

theorem spaceOrSlash_none (s : St) (c : Nat) (hw : isWs c = false) (h47 : c ≠ 47) : spaceOrSlash s c = none := by
  have hnw : ¬ (c = 32 ∨ c = 9 ∨ c = 10 ∨ c = 13) := fun hh => Bool.false_ne_true (hw ▸ (isWs_iff c).2 hh)
  unfold spaceOrSlash
  rw [if_neg (by omega), if_neg (by omega), if_neg h47]

theorem feedChar_ws (cfg : Cfg) (s s' : St) (c : Nat) (hs : wsState s.st = true) (he : s.err = none) (hc : isCtl c = false)
    (h : spaceOrSlash s c = some s') : feedChar cfg s c = s' := by
  rw [feedChar_of_consumed cfg s c he (stepChar_consumed_ws cfg s c hs)]
  rcases wsState_cases hs with hst | hst | hst | hst | hst | hst | hst <;>
    simp only [stepChar, hst, hc, h, Bool.false_eq_true, if_false]

theorem valueStart_none (cfg : Cfg) (s : St) (c : Nat) (h : c < 33 ∨ c = 47) : valueStart cfg s c = none := by
  unfold valueStart
  repeat rw [if_neg (by omega)]

theorem valueStart_plain (cfg : Cfg) (s s' : St) (c : Nat) (h : valueStart cfg s c = some s') :
    isCtl c = false ∧ spaceOrSlash s c = none := by
  have hc : ¬ (c < 33 ∨ c = 47) := by
    intro hn
    rw [valueStart_none cfg s c hn] at h
    cases h
  constructor
  · simp only [isCtl, Bool.and_eq_false_iff, decide_eq_false_iff_not]; omega
  · unfold spaceOrSlash
    repeat rw [if_neg (by omega)]

theorem feedChar_value (cfg : Cfg) (s s' : St) (c : Nat) (hs : vState s.st = true) (he : s.err = none)
    (h : valueStart cfg s c = some s') : feedChar cfg s c = s' := by
  obtain ⟨h1, h2⟩ := valueStart_plain cfg s s' c h
  rw [feedChar_of_consumed cfg s c he (stepChar_consumed_ws cfg s c (vState_ws hs))]
  rcases vState_cases hs with hst | hst | hst <;> simp only [stepChar, hst, h1, h2, h, Bool.false_eq_true, if_false]

theorem feedChar_string (cfg : Cfg) (s : St) (c : Nat) (hst : s.st = .string) (he : s.err = none) :
    feedChar cfg s c = stepString s c := by
  simp [feedChar, he, stepChar, hst]

theorem feedChar_memberName (cfg : Cfg) (s : St) (hs : s.st = .expectMemberNameOrEnd ∨ s.st = .expectMemberName) (he : s.err = none) :
    feedChar cfg s 34 = startString (push s .memberName) := by
  have hsp : spaceOrSlash s 34 = none := by simp [spaceOrSlash]
  rcases hs with hs | hs <;> simp [feedChar, he, stepChar, hs, isCtl, hsp]

theorem stepString_escape (s : St) (e : Nat) (hss : s.ss = .escape) : stepString s e =
    match simpleEsc e with
    | some b => { s with buf := s.buf ++ [b], ss := .text }
    | none => if e = 117 then { s with cp := 0, ss := .u1 } else fail s eIllegalEscaped := by
  simp only [stepString, hss]
  exact simpleEsc_elim e (fun b => { s with buf := s.buf ++ [b], ss := .text }) _

theorem stepString_simple_esc (s : St) (e b : Nat) (hss : s.ss = .escape) (h : simpleEsc e = some b) :
    stepString s e = { s with buf := s.buf ++ [b], ss := .text } := by
  rw [stepString_escape s e hss, h]

theorem stepString_plain (s : St) (c : Nat) (hss : s.ss = .text) (h34 : c ≠ 34) (h32 : ¬ c < 32) (h92 : c ≠ 92) :
    stepString s c = { s with buf := s.buf ++ [c] } := by
  have hctl : isCtl c = false := by
    simp only [isCtl, Bool.and_eq_false_iff, decide_eq_false_iff_not]; omega
  have h1 : ¬ (c = 10 ∨ c = 13 ∨ c = 9) := by omega
  simp [stepString, hss, hctl, h1, h34, h92]

theorem stepString_backslash (s : St) (hss : s.ss = .text) : stepString s 92 = { s with ss := .escape, noesc := false } := by
  simp [stepString, hss, isCtl]

theorem stepString_quote (s : St) (hss : s.ss = .text) : stepString s 34 = endString s := by
  simp [stepString, hss, isCtl]

theorem stepString_bad_esc (s : St) (e : Nat) (hss : s.ss = .escape) (h : simpleEsc e = none) (h117 : e ≠ 117) :
    stepString s e = fail s eIllegalEscaped := by
  rw [stepString_escape s e hss, h]
  exact if_neg h117

theorem stepString_ctl (s : St) (c : Nat) (hss : s.ss = .text) (h32 : c < 32) : (stepString s c).err.isSome = true := by
  by_cases hctl : isCtl c = true
  · simp [stepString, hss, hctl, fail]
  · have : c = 10 ∨ c = 13 ∨ c = 9 := by
      simp only [isCtl, Bool.and_eq_true, decide_eq_true_eq, bne_iff_ne, ne_eq] at hctl; omega
    simp [stepString, hss, hctl, this, fail]

/-- the re-examination of a character in `feedChar` goes on only from a state that has not failed -/
theorem err_none_of_not_stop {b : Bool} {s : St} (h : ¬ (b || s.err.isSome) = true) : s.err = none := by
  cases hs : s.err with
  | none => rfl
  | some k => rw [hs, Option.isSome_some, Bool.or_true] at h; exact absurd rfl h

theorem feedChar_induction {cfg : Cfg} {c : Nat} {I : St → Prop} (step : ∀ s, s.err = none → I s → I (stepChar cfg s c).1)
    {s : St} (h : I s) : I (feedChar cfg s c) := by
  unfold feedChar
  refine ite_cases (P := I) (fun _ => h) (fun he => ?_)
  have h1 := step s (err_none_of_not_stop (b := false) he) h
  refine ite_cases (P := I) (fun _ => h1) (fun he1 => ?_)
  have h2 := step _ (err_none_of_not_stop he1) h1
  exact ite_cases (P := I) (fun _ => h2) (fun he2 => step _ (err_none_of_not_stop he2) h2)

theorem feed_induction {cfg : Cfg} {I : St → Prop} {ok : Nat → Prop}
    (step : ∀ s c, ok c → s.err = none → I s → I (stepChar cfg s c).1) :
    ∀ (bs : Bytes) (s : St), (∀ c ∈ bs, ok c) → I s → I (feed cfg s bs)
  | [], _, _, h => h
  | c :: cs, s, hb, h =>
    feed_induction step cs (feedChar cfg s c) (fun x hx => hb x (List.mem_cons_of_mem _ hx))
      (feedChar_induction (fun s => step s c (hb c List.mem_cons_self)) h)

end JsonParser
end Model
end JV
