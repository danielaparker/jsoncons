/-
  Facts about the helpers over the generated tables (`JV.Extracted.at'`), shaped so that a statement about every
  index of a table is checked by one pass along the table.
-/
import JV.Extracted.Lookup
namespace JV.Extracted

/-- A relation between index and entry that holds along `t.zipIdx` holds at every index. Evaluated as it stands,
    `∀ c, c < n → p c (at' t c)` walks the list from its head once per `c`; the hypothesis `h` is one walk. -/
theorem forall_at' {t : List Nat} {n : Nat} (p : Nat → Nat → Prop) (hn : t.length = n)
    (h : ∀ x ∈ t.zipIdx, p x.2 x.1) : ∀ c, c < n → p c (at' t c) := by
  subst hn
  intro c hc
  have := h (t[c], c) (by simp [List.mem_zipIdx_iff_getElem?, hc])
  simpa [at', hc] using this

end JV.Extracted
