/-
  JV.Proofs.CborParserDepth — the nesting limit of the cbor_parser model (JV.Model.CborParser):
  * `depth_all`: whatever the input, a value the model delivers from nesting level `d ≤ max_nesting_depth` is nested at most
    `max_nesting_depth - d` deep (so `decode`'s value is nested at most `max_nesting_depth` deep);
  * `nestArr_item` / `nestMap_item` / `nestIndef_item`: k one-element definite arrays / one-member maps / indefinite arrays around a
    one-byte unsigned integer are accepted iff the innermost container is at level ≤ max_nesting_depth, and refused with
    `max_nesting_depth_exceeded` otherwise — the test is `++nesting_depth_ > max_nesting_depth_`: accept AT the limit, refuse one above.
-/
import JV.Proofs.CborParserEquations
namespace JV.Model.CborParser
open JV

theorem depth_all (maxD : Nat) : ∀ fuel : Nat,
    (∀ d s v r, d ≤ maxD → item maxD fuel d s = .ok v r → d + v.depth ≤ maxD) ∧
    (∀ d n s v r, d ≤ maxD → items maxD fuel d n s = .ok v r → d + depthList v ≤ maxD) ∧
    (∀ d s v r, d ≤ maxD → itemsIndef maxD fuel d s = .ok v r → d + depthList v ≤ maxD) ∧
    (∀ d n s v r, d ≤ maxD → members maxD fuel d n s = .ok v r → d + depthMembers v ≤ maxD) ∧
    (∀ d s v r, d ≤ maxD → membersIndef maxD fuel d s = .ok v r → d + depthMembers v ≤ maxD)
  | 0 => by
    refine ⟨?_, ?_, ?_, ?_, ?_⟩
    · intro d s v r hd h; simp [item] at h
    · intro d n s v r hd h; cases n with
      | zero => simp only [items, Res.ok.injEq] at h; simpa [← h.1, depthList] using hd
      | succ n => simp [items] at h
    · intro d s v r hd h; simp [itemsIndef] at h
    · intro d n s v r hd h; cases n with
      | zero => simp only [members, Res.ok.injEq] at h; simpa [← h.1, depthMembers] using hd
      | succ n => simp [members] at h
    · intro d s v r hd h; simp [membersIndef] at h
  | fuel + 1 => by
    obtain ⟨hI, hL, hLI, hM, hMI⟩ := depth_all maxD fuel
    refine ⟨?_, ?_, ?_, ?_, ?_⟩
    · intro d s v r hd h
      rcases item_ok h with ⟨h0, -⟩ | ⟨hd1, s1, -, ⟨n, xs, rfl, hx⟩ | ⟨xs, rfl, hx⟩ | ⟨n, ms, rfl, hx⟩ | ⟨ms, rfl, hx⟩⟩
      · rw [h0]; exact hd
      · have := hL _ _ _ _ _ hd1 hx; simp only [Item.depth]; omega
      · have := hLI _ _ _ _ hd1 hx; simp only [Item.depth]; omega
      · have := hM _ _ _ _ _ hd1 hx; simp only [Item.depth]; omega
      · have := hMI _ _ _ _ hd1 hx; simp only [Item.depth]; omega
    · intro d n s v r hd h
      cases n with
      | zero => simp only [items_zero, Res.ok.injEq] at h; simpa [← h.1, depthList] using hd
      | succ n =>
        obtain ⟨x, s1, hx, h⟩ := Res.bind_eq_ok.1 (items_succ maxD fuel d n s ▸ h)
        obtain ⟨xs, hxs, rfl⟩ := Res.map_eq_ok.1 h
        have := hI _ _ _ _ hd hx
        have := hL _ _ _ _ _ hd hxs
        simp only [depthList]; omega
    · intro d s v r hd h
      cases s with
      | nil => simp [itemsIndef] at h
      | cons ib s =>
        rw [itemsIndef_cons] at h
        split at h
        · simp only [Res.ok.injEq] at h; simpa [← h.1, depthList] using hd
        · obtain ⟨x, s1, hx, h⟩ := Res.bind_eq_ok.1 h
          obtain ⟨xs, hxs, rfl⟩ := Res.map_eq_ok.1 h
          have := hI _ _ _ _ hd hx
          have := hLI _ _ _ _ hd hxs
          simp only [depthList]; omega
    · intro d n s v r hd h
      cases n with
      | zero => simp only [members_zero, Res.ok.injEq] at h; simpa [← h.1, depthMembers] using hd
      | succ n =>
        obtain ⟨k, s1, hk, h⟩ := Res.bind_eq_ok.1 (members_succ maxD fuel d n s ▸ h)
        obtain ⟨x, s2, hx, h⟩ := Res.bind_eq_ok.1 h
        obtain ⟨ms, hms, rfl⟩ := Res.map_eq_ok.1 h
        have := hI _ _ _ _ hd hk
        have := hI _ _ _ _ hd hx
        have := hM _ _ _ _ _ hd hms
        simp only [depthMembers]; omega
    · intro d s v r hd h
      cases s with
      | nil => simp [membersIndef] at h
      | cons ib s =>
        rw [membersIndef_cons] at h
        split at h
        · simp only [Res.ok.injEq] at h; simpa [← h.1, depthMembers] using hd
        · obtain ⟨k, s1, hk, h⟩ := Res.bind_eq_ok.1 h
          obtain ⟨x, s2, hx, h⟩ := Res.bind_eq_ok.1 h
          obtain ⟨ms, hms, rfl⟩ := Res.map_eq_ok.1 h
          have := hI _ _ _ _ hd hk
          have := hI _ _ _ _ hd hx
          have := hMI _ _ _ _ hd hms
          simp only [depthMembers]; omega

theorem decode_depth_le {maxD : Nat} {s : Bytes} {v : Item} {r : Bytes} (h : decode maxD s = .ok v r) : v.depth ≤ maxD := by
  have := (depth_all maxD _).1 0 s v r (Nat.zero_le _) h
  omega

/-- k definite one-element arrays (`0x81`) around `leaf` -/
def nestArr : Nat → Bytes → Bytes
  | 0, leaf => leaf
  | k + 1, leaf => 0x81 :: nestArr k leaf
/-- k definite one-member maps with the empty text string as key (`0xa1 0x60`) around `leaf` -/
def nestMap : Nat → Bytes → Bytes
  | 0, leaf => leaf
  | k + 1, leaf => 0xa1 :: 0x60 :: nestMap k leaf
/-- k indefinite arrays (`0x9f … 0xff`) around `leaf` -/
def nestIndef : Nat → Bytes → Bytes
  | 0, leaf => leaf
  | k + 1, leaf => 0x9f :: (nestIndef k leaf ++ [0xff])

def nestArrV : Nat → Item → Item
  | 0, v => v
  | k + 1, v => .arr [nestArrV k v]
def nestMapV : Nat → Item → Item
  | 0, v => v
  | k + 1, v => .map [(.str [], nestMapV k v)]

theorem nestArr_eq (k : Nat) (leaf : Bytes) : nestArr k leaf = List.replicate k 0x81 ++ leaf := by
  induction k with
  | zero => rfl
  | succ k ih => simp [nestArr, ih, List.replicate_succ]

theorem nestIndef_eq (k : Nat) (leaf : Bytes) : nestIndef k leaf = List.replicate k 0x9f ++ leaf ++ List.replicate k 0xff := by
  induction k with
  | zero => simp [nestIndef]
  | succ k ih =>
    have : List.replicate (k + 1) (0xff : Nat) = List.replicate k 0xff ++ [0xff] := by simp [List.replicate_succ']
    rw [this]; simp [nestIndef, ih, List.replicate_succ]

theorem nestArr_length (k : Nat) (leaf : Bytes) : (nestArr k leaf).length = k + leaf.length := by
  induction k with
  | zero => simp [nestArr]
  | succ k ih => simp [nestArr, ih]; omega
theorem nestMap_length (k : Nat) (leaf : Bytes) : (nestMap k leaf).length = 2 * k + leaf.length := by
  induction k with
  | zero => simp [nestMap]
  | succ k ih => simp [nestMap, ih]; omega
theorem nestIndef_length (k : Nat) (leaf : Bytes) : (nestIndef k leaf).length = 2 * k + leaf.length := by
  induction k with
  | zero => simp [nestIndef]
  | succ k ih => simp [nestIndef, ih]; omega

theorem nestArrV_depth (k : Nat) (v : Item) : (nestArrV k v).depth = k + v.depth := by
  induction k with
  | zero => simp [nestArrV]
  | succ k ih => simp [nestArrV, Item.depth, depthList, ih]; omega
theorem nestMapV_depth (k : Nat) (v : Item) : (nestMapV k v).depth = k + v.depth := by
  induction k with
  | zero => simp [nestMapV]
  | succ k ih => simp [nestMapV, Item.depth, depthMembers, ih]; omega

theorem leaf_item (maxD n : Nat) (hn : n < 24) (tail : Bytes) (fuel d : Nat) :
    item maxD (fuel + 1) d (n :: tail) = .ok (.uint n) tail := by
  have h0 : n / 32 = 0 := by omega
  have h1 : n % 32 = n := by omega
  simp [item, readUint64, h0, h1, hn]

theorem nestArr_item (maxD n : Nat) (hn : n < 24) (tail : Bytes) : ∀ k fuel d, 2 * k + 1 ≤ fuel → d ≤ maxD →
    item maxD fuel d (nestArr k [n] ++ tail) =
      if d + k ≤ maxD then .ok (nestArrV k (.uint n)) tail else .fail (.err .maxNestingDepthExceeded) := by
  intro k
  induction k with
  | zero =>
    intro fuel d hf hd
    obtain ⟨f, rfl⟩ : ∃ f, fuel = f + 1 := ⟨fuel - 1, by omega⟩
    simp [nestArr, nestArrV, leaf_item maxD n hn, hd]
  | succ k ih =>
    intro fuel d hf hd
    obtain ⟨f, rfl⟩ : ∃ f, fuel = f + 2 := ⟨fuel - 2, by omega⟩
    simp only [nestArr, List.cons_append]
    rw [item_array maxD (f + 1) d 0x81 _ (by decide)]
    by_cases hdep : d + 1 > maxD
    · rw [if_pos hdep, if_neg (by omega)]
    · have hsz : readSize (0x81 :: (nestArr k [n] ++ tail)) = .ok 1 (nestArr k [n] ++ tail) := rfl
      rw [if_neg hdep, if_neg (by decide), hsz]
      simp only [Res.bind]
      rw [items_succ, ih f (d + 1) (by omega) (by omega)]
      by_cases h2 : d + 1 + k ≤ maxD
      · rw [if_pos h2, if_pos (by omega)]
        simp only [Res.bind, Res.map, items_zero, nestArrV]
      · rw [if_neg h2, if_neg (by omega)]; rfl

theorem badUtf8_nil : badUtf8 [] = false := by decide

theorem emptyKey_item (maxD g d : Nat) (s : Bytes) : item maxD (g + 1) d (0x60 :: s) = .ok (.str []) s := by
  simp [item, readString, readSize, readUint64, badUtf8_nil]

theorem nestMap_item (maxD n : Nat) (hn : n < 24) (tail : Bytes) : ∀ k fuel d, 2 * k + 1 ≤ fuel → d ≤ maxD →
    item maxD fuel d (nestMap k [n] ++ tail) =
      if d + k ≤ maxD then .ok (nestMapV k (.uint n)) tail else .fail (.err .maxNestingDepthExceeded) := by
  intro k
  induction k with
  | zero =>
    intro fuel d hf hd
    obtain ⟨f, rfl⟩ : ∃ f, fuel = f + 1 := ⟨fuel - 1, by omega⟩
    simp [nestMap, nestMapV, leaf_item maxD n hn, hd]
  | succ k ih =>
    intro fuel d hf hd
    obtain ⟨g, rfl⟩ : ∃ g, fuel = g + 3 := ⟨fuel - 3, by omega⟩
    simp only [nestMap, List.cons_append]
    by_cases hdep : d + 1 > maxD
    · have : ¬ d + (k + 1) ≤ maxD := by omega
      simp [item, hdep, this]
    · have ih2 := ih (g + 1) (d + 1) (by omega) (by omega)
      have hmem : members maxD (g + 2) (d + 1) 1 (0x60 :: (nestMap k [n] ++ tail)) =
          (item maxD (g + 1) (d + 1) (nestMap k [n] ++ tail)).map fun v => [(.str [], v)] := by
        rw [members_succ, emptyKey_item]
        simp only [Res.bind, members_zero]
        cases item maxD (g + 1) (d + 1) (nestMap k [n] ++ tail) <;> rfl
      have hsz : readSize (0xa1 :: 0x60 :: (nestMap k [n] ++ tail)) = .ok 1 (0x60 :: (nestMap k [n] ++ tail)) := rfl
      rw [item_map maxD (g + 2) d 0xa1 _ (by decide), if_neg hdep, if_neg (by decide), hsz]
      simp only [Res.bind, hmem, ih2]
      by_cases h2 : d + 1 + k ≤ maxD
      · rw [if_pos h2, if_pos (by omega)]; rfl
      · rw [if_neg h2, if_neg (by omega)]; rfl

theorem nestIndef_item (maxD n : Nat) (hn : n < 24) : ∀ k fuel d tail, 2 * k + 1 ≤ fuel → d ≤ maxD →
    item maxD fuel d (nestIndef k [n] ++ tail) =
      if d + k ≤ maxD then .ok (nestArrV k (.uint n)) tail else .fail (.err .maxNestingDepthExceeded) := by
  intro k
  induction k with
  | zero =>
    intro fuel d tail hf hd
    obtain ⟨f, rfl⟩ : ∃ f, fuel = f + 1 := ⟨fuel - 1, by omega⟩
    simp [nestIndef, nestArrV, leaf_item maxD n hn, hd]
  | succ k ih =>
    intro fuel d tail hf hd
    obtain ⟨g, rfl⟩ : ∃ g, fuel = g + 3 := ⟨fuel - 3, by omega⟩
    simp only [nestIndef, List.cons_append, List.append_assoc, List.nil_append]
    by_cases hdep : d + 1 > maxD
    · have : ¬ d + (k + 1) ≤ maxD := by omega
      simp [item, hdep, this]
    · have ih2 := ih (g + 1) (d + 1) (255 :: tail) (by omega) (by omega)
      obtain ⟨b, rest, hb, hne⟩ : ∃ b rest, nestIndef k [n] ++ 255 :: tail = b :: rest ∧ b ≠ 255 := by
        cases k with
        | zero => exact ⟨n, _, rfl, by omega⟩
        | succ k => exact ⟨0x9f, _, rfl, by decide⟩
      rw [hb] at ih2 ⊢
      have hone : itemsIndef maxD (g + 2) (d + 1) (b :: rest) = (item maxD (g + 1) (d + 1) (b :: rest)).bind fun x s1 =>
          (itemsIndef maxD (g + 1) (d + 1) s1).map (x :: ·) := by
        rw [itemsIndef_cons, if_neg hne]
      rw [item_array maxD (g + 2) d 0x9f _ (by decide), if_neg hdep, if_pos (by decide), hone, ih2]
      by_cases h2 : d + 1 + k ≤ maxD
      · rw [if_pos h2, if_pos (by omega)]
        simp only [Res.bind, Res.map, itemsIndef_cons, if_true, nestArrV]
      · rw [if_neg h2, if_neg (by omega)]; rfl

theorem decode_nestArr (maxD n : Nat) (hn : n < 24) (k : Nat) :
    decode maxD (nestArr k [n]) = if k ≤ maxD then .ok (nestArrV k (.uint n)) [] else .fail (.err .maxNestingDepthExceeded) := by
  have := nestArr_item maxD n hn [] k (2 * (nestArr k [n]).length + 2) 0 (by simp [nestArr_length]; omega) (Nat.zero_le _)
  simpa [decode] using this

theorem decode_nestMap (maxD n : Nat) (hn : n < 24) (k : Nat) :
    decode maxD (nestMap k [n]) = if k ≤ maxD then .ok (nestMapV k (.uint n)) [] else .fail (.err .maxNestingDepthExceeded) := by
  have := nestMap_item maxD n hn [] k (2 * (nestMap k [n]).length + 2) 0 (by simp [nestMap_length]; omega) (Nat.zero_le _)
  simpa [decode] using this

theorem decode_nestIndef (maxD n : Nat) (hn : n < 24) (k : Nat) :
    decode maxD (nestIndef k [n]) = if k ≤ maxD then .ok (nestArrV k (.uint n)) [] else .fail (.err .maxNestingDepthExceeded) := by
  have := nestIndef_item maxD n hn k (2 * (nestIndef k [n]).length + 2) 0 [] (by simp [nestIndef_length]; omega) (Nat.zero_le _)
  simpa [decode] using this

end JV.Model.CborParser
