/-
  JV.Proofs.PointerOps — navigation and modification by JSON Pointer: an operation that reports an
  error has not touched the document, a successful write can be read back; `get`, `put` and `apply`
  one token at a time; index tokens and `get` against RFC 6901.
-/
import JV.Proofs.Number
import JV.Proofs.Dom
import JV.Model.Pointer
import JV.Spec.Rfc6901
namespace JV
namespace Model
namespace Pointer
open Assoc

theorem isDash_false_of_ne {tok : Bytes} (h : tok ≠ [45]) : isDash tok = false := by simp [isDash, h]

def Final.isRemove : Final → Bool
  | .remove => true
  | _ => false

theorem finalStep_err (ordered create : Bool) (f : Final) (cur : JVal) (tok : Bytes) :
    (finalStep ordered create f cur tok).1 ≠ none → (finalStep ordered create f cur tok).2 = cur := by
  -- every branch of `finalStep` either reports no error or returns `cur` itself
  fun_cases finalStep ordered create f cur tok <;> simp

theorem modifyAt_fresh (ordered : Bool) (f : Final) (hf : f.isRemove = false) :
    ∀ (rest : List Bytes) (tok : Bytes), (modifyAt ordered true f (.obj []) tok rest).1 = none
  | [], tok => by
    cases f <;> simp_all [modifyAt, finalStep, find, Final.isRemove]
  | t2 :: rest, tok => by
    simp only [modifyAt, find, if_true]
    exact modifyAt_fresh ordered f hf rest t2

theorem modifyAt_err (ordered create : Bool) (f : Final) (hf : f.isRemove = true → create = false)
    (rest : List Bytes) (cur : JVal) (tok : Bytes) :
    (modifyAt ordered create f cur tok rest).1 ≠ none → (modifyAt ordered create f cur tok rest).2 = cur := by
  fun_induction modifyAt ordered create f cur tok rest with
  | case1 cur tok => exact finalStep_err ordered create f cur tok
  | case5 xs tok t2 rest _ i _ x hx r ih => intro he; simp only [r, ih he, set_same (hx : xs[i]? = some x)]
  | case6 ms tok t2 rest x hfind r ih => intro he; simp only [r, ih he, replaceVal_same (hfind : find tok ms = some x)]
  | case7 ms tok t2 rest _ hc r _ =>
    -- `create_if_missing` has made the member already, but nothing below it can fail
    intro he
    subst (hc : create = true)
    have hfr : f.isRemove = false := by
      cases h : f.isRemove with
      | false => rfl
      | true => exact absurd (hf h) (by decide)
    exact absurd (modifyAt_fresh ordered f hfr rest t2) he
  | _ => intro _; rfl

theorem apply_err (ordered create : Bool) (f : Final) (hf : f.isRemove = true → create = false)
    (d : JVal) (ts : List Bytes) (h : (apply ordered create f d ts).1 ≠ none) : (apply ordered create f d ts).2 = d := by
  cases ts with
  | nil => cases f <;> simp_all [apply]
  | cons tok rest => exact modifyAt_err ordered create f hf rest d tok h

theorem finalStep_then_get (ordered create : Bool) (f : Final) (v : JVal)
    (hf : f = .add v ∨ f = .addIfAbsent v ∨ f = .replace v) (cur : JVal) (tok : Bytes) (hnd : isDash tok = false)
    (hok : (finalStep ordered create f cur tok).1 = none) : get (finalStep ordered create f cur tok).2 [tok] = .ok v := by
  -- `get` reads the token as the operation did, and each successful write has put `v` at that index or name
  revert hok
  fun_cases finalStep ordered create f cur tok <;>
    simp_all [get, getElem_insertAt, find_insertOrAssign_self, find_tryEmplace_self]

theorem modifyAt_then_get (ordered create : Bool) (f : Final) (v : JVal)
    (hf : f = .add v ∨ f = .addIfAbsent v ∨ f = .replace v) (rest : List Bytes) (cur : JVal) (tok : Bytes) :
    (tok :: rest).getLast? ≠ some [45] → (modifyAt ordered create f cur tok rest).1 = none →
      get (modifyAt ordered create f cur tok rest).2 (tok :: rest) = .ok v := by
  fun_induction modifyAt ordered create f cur tok rest with
  | case1 cur tok =>
    intro hlast hok
    have hnd : isDash tok = false := isDash_false_of_ne fun e => by simp [e] at hlast
    exact finalStep_then_get ordered create f v hf cur tok hnd hok
  | case5 xs tok t2 rest hd i hi x hx r ih =>
    intro hlast hok
    have hlt : i < xs.length := (List.getElem?_eq_some_iff.1 (hx : xs[i]? = some x)).1
    simp only [get, hd, (hi : decToIndex tok = some i), List.getElem?_set_self hlt]
    exact ih (by simpa [List.getLast?_cons_cons] using hlast) hok
  | case6 ms tok t2 rest x hfind r ih =>
    intro hlast hok
    simp only [get, find_replaceVal_self (hfind : find tok ms = some x)]
    exact ih (by simpa [List.getLast?_cons_cons] using hlast) hok
  | case7 ms tok t2 rest hfind _ r ih =>
    intro hlast hok
    simp only [get, find_tryEmplace_self ordered (hfind : find tok ms = none)]
    exact ih (by simpa [List.getLast?_cons_cons] using hlast) hok
  | _ => intro _ hok; cases hok

/-! ### the last token on an array: which position, then what happens there -/

def slot (forAdd : Bool) (n : Nat) (k : Bytes) : Except PErr Nat :=
  if isDash k then (if forAdd then .ok n else .error .indexExceeds)
  else match decToIndex k with
    | none => .error .invalidIndex
    | some i => if (if forAdd then i > n else i ≥ n) then .error .indexExceeds else .ok i

def Final.isAdd : Final → Bool
  | .add _ | .addIfAbsent _ => true
  | _ => false

def Final.onList : Final → Nat → List JVal → List JVal
  | .add v, i, xs | .addIfAbsent v, i, xs => insertAt i v xs
  | .replace v, i, xs => xs.set i v
  | .remove, i, xs => xs.eraseIdx i

/-- `finalStep` on an array: the one place where "`-`? index text? in range?" is taken apart -/
theorem finalStep_arr (o create : Bool) (f : Final) (xs : List JVal) (k : Bytes) :
    finalStep o create f (.arr xs) k = match slot f.isAdd xs.length k with
      | .error e => (some e, .arr xs)
      | .ok i => (none, .arr (f.onList i xs)) := by
  cases f with
  | add v | addIfAbsent v =>
    simp only [finalStep, slot, Final.isAdd, Final.onList]
    cases isDash k with
    | true => simp [insertAt_length]
    | false =>
      cases decToIndex k with
      | none => rfl
      | some i =>
        simp only [Bool.false_eq_true, if_false, if_true]
        by_cases h1 : i > xs.length
        · simp [h1]
        · by_cases h2 : i = xs.length
          · subst h2; simp [insertAt_length]
          · simp [h1, h2]
  | replace v | remove =>
    simp only [finalStep, slot, Final.isAdd, Final.onList]
    cases isDash k with
    | true => rfl
    | false =>
      cases decToIndex k with
      | none => rfl
      | some i =>
        simp only [Bool.false_eq_true, if_false]
        by_cases h1 : i ≥ xs.length <;> simp [h1]

theorem slot_of_index {k : Bytes} {i : Nat} (hd : isDash k = false) (hi : decToIndex k = some i) (forAdd : Bool) (n : Nat) :
    slot forAdd n k = if (if forAdd then i > n else i ≥ n) then .error .indexExceeds else .ok i := by
  simp [slot, hd, hi]

theorem slot_ok {n i : Nat} {k : Bytes} (h : slot false n k = .ok i) :
    isDash k = false ∧ decToIndex k = some i ∧ i < n := by
  unfold slot at h
  cases hd : isDash k with
  | true => simp [hd] at h
  | false =>
    cases hi : decToIndex k with
    | none => simp [hd, hi] at h
    | some j =>
      simp only [hd, hi, Bool.false_eq_true, if_false] at h
      by_cases h1 : j ≥ n
      · simp [h1] at h
      · simp only [h1, if_false, Except.ok.injEq] at h
        exact ⟨rfl, h ▸ rfl, by omega⟩

/-! ### the last token on an object: is the name there, then what happens to the member list -/

def Final.memberErr (create present : Bool) : Final → Option PErr
  | .add _ => none
  | .addIfAbsent _ => if present then some .keyExists else none
  | .replace _ => if present || create then none else some .keyNotFound
  | .remove => if present then none else some .keyNotFound

/-- every successful write is an `insert_or_assign`: where `finalStep` calls `try_emplace` the name is absent -/
def Final.onMembers (o : Bool) : Final → Bytes → List (Bytes × JVal) → List (Bytes × JVal)
  | .add v, k, ms | .addIfAbsent v, k, ms | .replace v, k, ms => insertOrAssign o k v ms
  | .remove, k, ms => erase k ms

theorem finalStep_obj (o create : Bool) (f : Final) (ms : List (Bytes × JVal)) (k : Bytes) :
    finalStep o create f (.obj ms) k = match f.memberErr create (find k ms).isSome with
      | some e => (some e, .obj ms)
      | none => (none, .obj (f.onMembers o k ms)) := by
  cases hf : find k ms with
  | none => cases f <;> cases create <;> simp [finalStep, Final.memberErr, Final.onMembers, hf, tryEmplace_absent o _ hf]
  | some x => cases f <;> simp [finalStep, Final.memberErr, Final.onMembers, hf]

/-! ### navigation one token at a time

  `child d tok` is one step of `resolve`, `setChild d tok x` puts a value in that place, `put d loc x` does so
  at the end of a location.  `get`, `put` and the modifying `apply` (without `create_if_missing`) unfold
  along a location through these, and `apply` at `loc ++ [k]` is `finalStep` on the container `get d loc`,
  put back at `loc` (`apply_snoc`).  -/

def child : JVal → Bytes → Except PErr JVal
  | .arr xs, tok =>
    if isDash tok then .error .indexExceeds
    else match decToIndex tok with
      | none => .error .invalidIndex
      | some i =>
        match xs[i]? with
        | none => .error .indexExceeds
        | some x => .ok x
  | .obj ms, tok =>
    match find tok ms with
    | none => .error .keyNotFound
    | some x => .ok x
  | _, _ => .error .expectedObjOrArr

def setChild : JVal → Bytes → JVal → JVal
  | .arr xs, tok, x =>
    match decToIndex tok with
    | none => .arr xs
    | some i => .arr (xs.set i x)
  | .obj ms, tok, x => .obj (replaceVal tok x ms)
  | d, _, _ => d

theorem child_arr {xs : List JVal} {tok : Bytes} {i : Nat} {c : JVal} (hd : isDash tok = false)
    (hi : decToIndex tok = some i) (hx : xs[i]? = some c) : child (.arr xs) tok = .ok c := by
  simp [child, hd, hi, hx]

theorem child_obj {ms : List (Bytes × JVal)} {tok : Bytes} {c : JVal} (hf : find tok ms = some c) :
    child (.obj ms) tok = .ok c := by
  simp [child, hf]

theorem child_ok {d : JVal} {tok : Bytes} {c : JVal} (h : child d tok = .ok c) :
    (∃ xs i, d = .arr xs ∧ isDash tok = false ∧ decToIndex tok = some i ∧ xs[i]? = some c) ∨
    (∃ ms, d = .obj ms ∧ find tok ms = some c) := by
  revert h
  fun_cases child d tok <;> simp [*]

theorem child_setChild {d : JVal} {tok : Bytes} {c : JVal} (h : child d tok = .ok c) (x : JVal) :
    child (setChild d tok x) tok = .ok x := by
  rcases child_ok h with ⟨xs, i, rfl, hd, hi, hx⟩ | ⟨ms, rfl, hf⟩
  · have hlt : i < xs.length := (List.getElem?_eq_some_iff.1 hx).1
    simp [child, setChild, hd, hi, hlt]
  · simp [child, setChild, find_replaceVal_self hf]

theorem setChild_setChild (d : JVal) (tok : Bytes) (x y : JVal) :
    setChild (setChild d tok x) tok y = setChild d tok y := by
  cases d with
  | arr xs => cases hi : decToIndex tok <;> simp [setChild, hi]
  | obj ms => simp [setChild, replaceVal_replaceVal]
  | _ => rfl

theorem setChild_same {d : JVal} {tok : Bytes} {c : JVal} (h : child d tok = .ok c) : setChild d tok c = d := by
  rcases child_ok h with ⟨xs, i, rfl, hd, hi, hx⟩ | ⟨ms, rfl, hf⟩
  · simp [setChild, hi, set_same hx]
  · simp [setChild, replaceVal_same hf]

theorem get_nil (d : JVal) : get d [] = .ok d := by cases d <;> rfl

theorem get_cons (d : JVal) (tok : Bytes) (rest : List Bytes) :
    get d (tok :: rest) = match child d tok with
      | .ok c => get c rest
      | .error e => .error e := by
  fun_cases child d tok <;> simp_all [get]

theorem get_cons_ok {d v : JVal} {tok : Bytes} {rest : List Bytes} (h : get d (tok :: rest) = .ok v) :
    ∃ c, child d tok = .ok c ∧ get c rest = .ok v := by
  rw [get_cons] at h
  cases hc : child d tok with
  | error e => simp [hc] at h
  | ok c => exact ⟨c, rfl, by rwa [hc] at h⟩

theorem get_one (d : JVal) (tok : Bytes) : get d [tok] = child d tok := by
  rw [get_cons]; cases child d tok with
  | ok c => exact get_nil c
  | error e => rfl

theorem get_append (rest : List Bytes) : ∀ (loc : List Bytes) (d : JVal),
    get d (loc ++ rest) = match get d loc with
      | .ok c => get c rest
      | .error e => .error e
  | [], d => by rw [get_nil]; rfl
  | tok :: loc, d => by
    rw [List.cons_append, get_cons, get_cons]
    cases child d tok with
    | ok c => exact get_append rest loc c
    | error e => rfl

theorem get_snoc (d : JVal) (loc : List Bytes) (k : Bytes) :
    get d (loc ++ [k]) = match get d loc with
      | .ok c => child c k
      | .error e => .error e := by
  rw [get_append]; cases get d loc with
  | ok c => exact get_one c k
  | error e => rfl

def put : JVal → List Bytes → JVal → JVal
  | _, [], x => x
  | .arr xs, tok :: rest, x =>
    match decToIndex tok with
    | none => .arr xs
    | some i =>
      match xs[i]? with
      | none => .arr xs
      | some c => .arr (xs.set i (put c rest x))
  | .obj ms, tok :: rest, x =>
    match find tok ms with
    | none => .obj ms
    | some c => .obj (replaceVal tok (put c rest x) ms)
  | d, _ :: _, _ => d

theorem put_nil (d x : JVal) : put d [] x = x := by cases d <;> rfl

theorem put_cons_ok {d : JVal} {tok : Bytes} {c : JVal} (h : child d tok = .ok c) (rest : List Bytes) (x : JVal) :
    put d (tok :: rest) x = setChild d tok (put c rest x) := by
  rcases child_ok h with ⟨xs, i, rfl, hd, hi, hx⟩ | ⟨ms, rfl, hf⟩
  · simp [put, setChild, hi, hx]
  · simp [put, setChild, hf]

theorem put_cons_err {d : JVal} {tok : Bytes} {e : PErr} (h : child d tok = .error e) (rest : List Bytes) (x : JVal) :
    put d (tok :: rest) x = d := by
  revert h
  fun_cases child d tok <;> simp_all [put, isDash, show decToIndex [45] = none by decide]

theorem get_put : ∀ (loc : List Bytes) {d s : JVal} (x : JVal), get d loc = .ok s → get (put d loc x) loc = .ok x
  | [], d, s, x, _ => by rw [put_nil, get_nil]
  | tok :: rest, d, s, x, h => by
    obtain ⟨c, hc, h⟩ := get_cons_ok h
    rw [put_cons_ok hc, get_cons, child_setChild hc]
    exact get_put rest x h

theorem put_put : ∀ (loc : List Bytes) {d s : JVal} (x y : JVal), get d loc = .ok s →
    put (put d loc x) loc y = put d loc y
  | [], d, s, x, y, _ => by simp [put_nil]
  | tok :: rest, d, s, x, y, h => by
    obtain ⟨c, hc, h⟩ := get_cons_ok h
    rw [put_cons_ok hc, put_cons_ok (child_setChild hc _), setChild_setChild, put_put rest x y h, put_cons_ok hc]

theorem put_same : ∀ (loc : List Bytes) {d s : JVal}, get d loc = .ok s → put d loc s = d
  | [], d, s, h => by rw [put_nil]; rw [get_nil] at h; exact (Except.ok.inj h).symm
  | tok :: rest, d, s, h => by
    obtain ⟨c, hc, h⟩ := get_cons_ok h
    rw [put_cons_ok hc, put_same rest h, setChild_same hc]

theorem put_append : ∀ (loc : List Bytes) {d c : JVal} (rest : List Bytes) (y : JVal), get d loc = .ok c →
    put d (loc ++ rest) y = put d loc (put c rest y)
  | [], d, c, rest, y, h => by
    rw [get_nil] at h; rw [← Except.ok.inj h, put_nil]; rfl
  | tok :: loc, d, c, rest, y, h => by
    obtain ⟨c2, hc, h⟩ := get_cons_ok h
    rw [List.cons_append, put_cons_ok hc, put_cons_ok hc, put_append loc rest y h]

theorem apply_cons (o : Bool) (f : Final) (d : JVal) (tok : Bytes) {rest : List Bytes} (hr : rest ≠ []) :
    apply o false f d (tok :: rest) = match child d tok with
      | .ok c => ((apply o false f c rest).1, setChild d tok (apply o false f c rest).2)
      | .error e => (some e, d) := by
  cases rest with
  | nil => exact absurd rfl hr
  | cons t2 rest => fun_cases child d tok <;> simp_all [apply, modifyAt, setChild]

theorem apply_snoc (o : Bool) (f : Final) (k : Bytes) : ∀ (loc : List Bytes) (d : JVal),
    apply o false f d (loc ++ [k]) = match get d loc with
      | .ok c => ((finalStep o false f c k).1, put d loc (finalStep o false f c k).2)
      | .error e => (some e, d)
  | [], d => by rw [get_nil]; simp only [List.nil_append, apply, modifyAt, put_nil]
  | tok :: loc, d => by
    rw [List.cons_append, apply_cons o f d tok (by simp), get_cons]
    cases hc : child d tok with
    | error e => rfl
    | ok c =>
      simp only [apply_snoc o f k loc c]
      cases get c loc with
      | error e => simp [setChild_same hc]
      | ok c2 => simp [put_cons_ok hc]

theorem apply_snoc_ok (o : Bool) (f : Final) {d c : JVal} {loc : List Bytes} (k : Bytes) (h : get d loc = .ok c) :
    apply o false f d (loc ++ [k]) = ((finalStep o false f c k).1, put d loc (finalStep o false f c k).2) := by
  rw [apply_snoc, h]

theorem finalStep_replace_ok (o : Bool) (x : JVal) {c : JVal} {k : Bytes} {s : JVal} (hc : child c k = .ok s) :
    finalStep o false (.replace x) c k = (none, setChild c k x) := by
  rcases child_ok hc with ⟨xs, i, rfl, hd, hi, hx⟩ | ⟨ms, rfl, hf⟩
  · have h1 : ¬ i ≥ xs.length := Nat.not_le.2 (List.getElem?_eq_some_iff.1 hx).1
    simp [finalStep, setChild, hd, hi, h1]
  · simp [finalStep, setChild, hf, insertOrAssign]

theorem apply_replace_put (o : Bool) (x : JVal) {d s : JVal} (loc : List Bytes) (h : get d loc = .ok s) :
    apply o false (.replace x) d loc = (none, put d loc x) := by
  rcases List.eq_nil_or_concat loc with rfl | ⟨l, k, rfl⟩
  · simp [apply, put_nil]
  · rw [List.concat_eq_append, get_snoc] at h
    rw [List.concat_eq_append]
    cases hl : get d l with
    | error e => simp [hl] at h
    | ok c =>
      rw [hl] at h
      rw [apply_snoc_ok o _ k hl, finalStep_replace_ok o x h, put_append l [k] x hl, put_cons_ok h, put_nil]

theorem apply_err_doc (ordered : Bool) (f : Final) (d : JVal) (ts : List Bytes)
    (h : (apply ordered false f d ts).1 ≠ none) : (apply ordered false f d ts).2 = d :=
  apply_err ordered false f (fun _ => rfl) d ts h

/-! ### index tokens against RFC 6901's `array-index` -/
open Spec.Rfc6901

theorem digitsVal_eq : ∀ (s : Bytes) (acc : Nat), digitsVal s acc = acc * 10 ^ s.length + decVal s
  | [], acc => by simp [digitsVal, decVal]
  | c :: cs, acc => by
    simp only [digitsVal, decVal, digitsVal_eq cs, List.length_cons, Nat.pow_succ]
    rw [Nat.add_mul, Nat.mul_assoc, Nat.mul_comm 10]
    omega

theorem all_isDigit_iff (s : Bytes) : s.all Spec.Rfc6901.isDigit = true ↔ AllDigits s := by
  simp [AllDigits, List.all_eq_true, Spec.Rfc6901.isDigit, Model.isDigit]

theorem arrayIndex_eq_some_iff {tok : Bytes} {n : Nat} : arrayIndex tok = some n ↔
    tok ≠ [] ∧ AllDigits tok ∧ ¬ (tok.length > 1 ∧ tok.head? = some 48) ∧ decVal tok = n := by
  cases tok with
  | nil => simp [arrayIndex]
  | cons c cs =>
    have hall : AllDigits (c :: cs) ↔ (48 ≤ c ∧ c ≤ 57) ∧ cs.all Spec.Rfc6901.isDigit = true := by
      rw [all_isDigit_iff]
      simp only [AllDigits, List.mem_cons, forall_eq_or_imp, isDigit_iff]
    simp only [arrayIndex, hall, digitsVal_eq, ne_eq, reduceCtorEq, not_false_eq_true, true_and,
      List.length_cons, List.head?_cons, Option.some.injEq, Nat.zero_mul, Nat.zero_add]
    by_cases hc : c = 48
    · subst hc
      cases cs with
      | nil => simp [decVal, eq_comm]
      | cons d ds => simp
    · simp only [hc, if_false, and_false, not_false_eq_true, true_and]
      constructor
      · intro h
        split at h
        · next h3 => exact ⟨⟨⟨by omega, h3.2.1⟩, h3.2.2⟩, Option.some.inj h⟩
        · cases h
      · rintro ⟨⟨⟨h1, h2⟩, h3⟩, rfl⟩
        rw [if_pos ⟨by omega, h2, h3⟩]

/-- `to_array_index` accepts the same texts, as far as the value fits `size_t` -/
theorem decToIndex_eq_some_iff {tok : Bytes} {n : Nat} : decToIndex tok = some n ↔
    (tok ≠ [] ∧ AllDigits tok ∧ ¬ (tok.length > 1 ∧ tok.head? = some 48) ∧ decVal tok = n) ∧ n < 2 ^ 64 := by
  unfold decToIndex
  by_cases hz : tok.length > 1 ∧ tok.head? = some 48
  · simp [hz]
  · simp only [hz, if_false, not_false_eq_true, true_and]
    constructor
    · intro h
      cases hd : decToU64 tok with
      | error e => rw [hd] at h; cases h
      | ok m =>
        rw [hd] at h; cases h
        obtain ⟨hall, hne, hlen⟩ := decToU64_ok_allDigits tok _ hd
        have hv := decToU64_digits tok hne hall hlen
        rw [hd] at hv
        split at hv
        · cases hv; exact ⟨⟨hne, hall, rfl⟩, by omega⟩
        · cases hv
    · rintro ⟨⟨hne, hall, rfl⟩, hn⟩
      -- without a leading zero, more than 20 digits would exceed 2^64
      have hlen : tok.length ≤ 20 := by
        cases tok with
        | nil => exact absurd rfl hne
        | cons c cs =>
          by_cases hl : (c :: cs).length ≤ 20
          · exact hl
          · exfalso
            have h20 : 20 ≤ cs.length := by simp at hl; omega
            have hc := isDigit_iff.1 (hall c (by simp))
            have hc0 : c ≠ 48 := fun e => hz ⟨by simp; omega, by simp [e]⟩
            have : decVal (c :: cs) ≥ 10 ^ cs.length := by
              simp only [decVal]
              have : 1 ≤ c - 48 := by omega
              have := Nat.mul_le_mul_right (10 ^ cs.length) this
              omega
            have hp : (10:Nat) ^ 20 ≤ 10 ^ cs.length := Nat.pow_le_pow_right (by omega) h20
            omega
      rw [decToU64_digits tok hne hall hlen, if_pos (by omega)]

theorem decToIndex_sound {tok : Bytes} {n : Nat} (h : decToIndex tok = some n) : arrayIndex tok = some n :=
  arrayIndex_eq_some_iff.2 (decToIndex_eq_some_iff.1 h).1

theorem decToIndex_complete {tok : Bytes} {n : Nat} (h : arrayIndex tok = some n) (hn : n < 2 ^ 64) :
    decToIndex tok = some n :=
  decToIndex_eq_some_iff.2 ⟨arrayIndex_eq_some_iff.1 h, hn⟩

theorem arrayIndex_dash : arrayIndex [45] = none := by decide

/-! ### the index text `natDigits n`: what `flatten` and `from_diff` write is what `to_array_index` reads back -/

theorem digitChar_toNat : ∀ d, d < 10 → (Nat.digitChar d).toNat = 48 + d := by decide

theorem toDigitsCore_eq : ∀ (fuel n : Nat) (ds : List Char), n < fuel →
    (Nat.toDigitsCore 10 fuel n ds).map (·.toNat) = (revDigits fuel n).reverse ++ ds.map (·.toNat)
  | 0, n, ds, h => by omega
  | fuel + 1, n, ds, h => by
    simp only [Nat.toDigitsCore, revDigits]
    have hd := digitChar_toNat (n % 10) (Nat.mod_lt _ (by decide))
    by_cases h0 : n / 10 = 0
    · simp [h0, hd]
    · simp only [h0, if_false]
      have hlt : n / 10 < fuel := by omega
      rw [toDigitsCore_eq fuel (n / 10) _ hlt]
      simp [hd]

theorem natDigits_eq_rev (n : Nat) : natDigits n = (revDigits (n + 1) n).reverse := by
  unfold natDigits Nat.toDigits
  rw [toDigitsCore_eq (n + 1) n [] (by omega)]
  simp

/-- an array-index text in the sense of `arrayIndex_eq_some_iff`, for every `n` -/
theorem natDigits_spec (n : Nat) : natDigits n ≠ [] ∧ AllDigits (natDigits n) ∧
    ¬ ((natDigits n).length > 1 ∧ (natDigits n).head? = some 48) ∧ decVal (natDigits n) = n := by
  have hn : n < 10 ^ (n + 1) := Nat.lt_trans (Nat.lt_succ_self n) (Nat.lt_pow_self (by decide))
  obtain ⟨hv, hall, hne, _, hz⟩ := revDigits_spec (n + 1) n hn (by omega)
  rw [natDigits_eq_rev]
  refine ⟨by simpa using hne, hall, ?_, hv⟩
  rintro ⟨hl, hh⟩
  have := hz hh
  subst this
  revert hl; decide

theorem arrayIndex_natDigits (n : Nat) : arrayIndex (natDigits n) = some n :=
  arrayIndex_eq_some_iff.2 (natDigits_spec n)

theorem decToIndex_natDigits (n : Nat) (hn : n < 2 ^ 64) : decToIndex (natDigits n) = some n :=
  decToIndex_eq_some_iff.2 ⟨natDigits_spec n, hn⟩

theorem natDigits_inj {i j : Nat} (h : natDigits i = natDigits j) : i = j := by
  rw [← (natDigits_spec i).2.2.2, h, (natDigits_spec j).2.2.2]

theorem natDigits_ne_dash (n : Nat) : natDigits n ≠ [45] := fun h => by
  have := (natDigits_spec n).2.1 45 (by rw [h]; exact List.mem_singleton_self _)
  exact absurd this (by decide)

theorem isDash_natDigits (n : Nat) : isDash (natDigits n) = false := isDash_false_of_ne (natDigits_ne_dash n)

theorem escapeToken_digits : ∀ (s : Bytes), AllDigits s → escapeToken s = s
  | [], _ => rfl
  | c :: cs, h => by
    have hc := isDigit_iff.1 (h c List.mem_cons_self)
    have h1 : c ≠ 126 := by omega
    have h2 : c ≠ 47 := by omega
    simp only [escapeToken, h1, h2, if_false]
    rw [escapeToken_digits cs (fun d hd => h d (List.mem_cons_of_mem _ hd))]

theorem escapeToken_natDigits (n : Nat) : escapeToken (natDigits n) = natDigits n :=
  escapeToken_digits _ (natDigits_spec n).2.1

/-! every array of the value is shorter than 2^64 (always true of a C++ container) -/
mutual
  def SmallArrays : JVal → Prop
    | .arr xs => xs.length < 2 ^ 64 ∧ SmallList xs
    | .obj ms => SmallMembers ms
    | _ => True
  def SmallList : List JVal → Prop
    | [] => True
    | x :: xs => SmallArrays x ∧ SmallList xs
  def SmallMembers : List (Bytes × JVal) → Prop
    | [] => True
    | (_, x) :: ms => SmallArrays x ∧ SmallMembers ms
end

theorem small_of_getElem {x : JVal} : ∀ {xs : List JVal} {i : Nat}, SmallList xs → xs[i]? = some x → SmallArrays x
  | [], _, _, h => by simp at h
  | y :: ys, 0, hs, h => by simp at h; subst h; exact hs.1
  | y :: ys, i + 1, hs, h => by simp at h; exact small_of_getElem hs.2 h

theorem small_of_find {k : Bytes} {x : JVal} : ∀ {ms : List (Bytes × JVal)}, SmallMembers ms → find k ms = some x → SmallArrays x
  | [], _, h => by simp [find] at h
  | (k', v) :: ms, hs, h => by
    rcases find_cons_eq_some.1 h with ⟨_, rfl⟩ | ⟨_, h⟩
    · exact hs.1
    · exact small_of_find hs.2 h

/-! ### `get` against RFC 6901 evaluation -/

theorem get_sound (ts : List Bytes) (d v : JVal) : get d ts = .ok v → eval d ts = some v := by
  fun_induction get d ts with
  | case1 cur => intro h; cases h; simp [eval]
  | case5 xs tok rest _ i hi x hx ih =>
    intro h; simp only [eval, decToIndex_sound (hi : decToIndex tok = some i), (hx : xs[i]? = some x)]; exact ih h
  | case7 ms tok rest x hf ih => intro h; simp only [eval, (hf : find tok ms = some x)]; exact ih h
  | _ => intro h; cases h

theorem get_complete (ts : List Bytes) (d v : JVal) : SmallArrays d → eval d ts = some v → get d ts = .ok v := by
  fun_induction eval d ts with
  | case1 => intro _ h; cases h; simp [get]
  | case4 xs tok rest i hi x hx ih =>
    intro hs h
    have hlt : i < xs.length := (List.getElem?_eq_some_iff.1 (hx : xs[i]? = some x)).1
    have hdash : isDash tok = false := isDash_false_of_ne fun e => by rw [e, arrayIndex_dash] at hi; cases hi
    have hlen : xs.length < 2 ^ 64 := hs.1
    simp only [get, hdash, Bool.false_eq_true, if_false, decToIndex_complete (hi : arrayIndex tok = some i) (by omega), hx]
    exact ih (small_of_getElem hs.2 hx) h
  | case6 ms tok rest x hf ih =>
    intro hs h; simp only [get, (hf : find tok ms = some x)]; exact ih (small_of_find hs hf) h
  | _ => intro _ h; cases h

end Pointer
end Model
end JV
