/-
  JV.Proofs.BigInt — the limb loops agree with integer arithmetic.
-/
import JV.Model.BigInt
namespace JV
namespace Model
namespace BigInt

/-- the number a magnitude stands for: words base `B`, least significant first -/
def val : List Nat → Nat
  | [] => 0
  | x :: xs => x + B * val xs

theorem val_one (x : Nat) : val [x] = x := by simp [val]
theorem val_two (x y : Nat) : val [x, y] = x + B * y := by simp [val]

/-- the integer a `Big` stands for -/
def toInt (b : Big) : Int := if b.neg then -((val b.mag : Nat) : Int) else ((val b.mag : Nat) : Int)

theorem toInt_zero_mag (n : Bool) : toInt { neg := n, mag := [] } = 0 := by
  cases n <;> simp [toInt, val]

theorem B_pos : 0 < B := by unfold B; omega
theorem two_le_B : 2 ≤ B := by unfold B; omega

/-- every element fits a 64-bit word -/
def Words (xs : List Nat) : Prop := ∀ x ∈ xs, x < B

theorem Words.tail {x : Nat} {xs : List Nat} (h : Words (x :: xs)) : Words xs := fun y hy => h y (by simp [hy])
theorem Words.head {x : Nat} {xs : List Nat} (h : Words (x :: xs)) : x < B := h x (by simp)

theorem val_lt : ∀ {xs : List Nat}, Words xs → val xs < B ^ xs.length
  | [], _ => by simp [val]
  | x :: xs, h => by
    have := val_lt h.tail
    have hx := h.head
    simp only [val, List.length_cons, Nat.pow_succ]
    have : B * val xs + B ≤ B * B ^ xs.length := by
      have := Nat.mul_le_mul_left B (Nat.succ_le_of_lt this)
      simpa [Nat.mul_succ] using this
    rw [Nat.mul_comm (B ^ xs.length) B]
    omega

theorem val_append (a b : List Nat) : val (a ++ b) = val a + B ^ a.length * val b := by
  induction a with
  | nil => simp [val]
  | cons x xs ih =>
    simp only [List.cons_append, val, ih, List.length_cons, Nat.pow_succ]
    rw [Nat.mul_add, ← Nat.mul_assoc, Nat.mul_comm B (B ^ xs.length)]
    omega

theorem val_replicate_zero (n : Nat) : val (List.replicate n 0) = 0 := by
  induction n with
  | zero => rfl
  | succ n ih => simp [List.replicate_succ, val, ih]

theorem val_padTo (n : Nat) (xs : List Nat) : val (padTo n xs) = val xs := by
  simp [padTo, val_append, val_replicate_zero]

theorem words_padTo (n : Nat) {xs : List Nat} (h : Words xs) : Words (padTo n xs) := by
  intro x hx
  simp only [padTo, List.mem_append, List.mem_replicate] at hx
  rcases hx with hx | hx
  · exact h x hx
  · rw [hx.2]; exact B_pos

theorem length_padTo (n : Nat) (xs : List Nat) (h : xs.length ≤ n) : (padTo n xs).length = n := by
  simp [padTo]; omega

theorem Words.cons {x : Nat} {xs : List Nat} (hx : x < B) (h : Words xs) : Words (x :: xs) :=
  List.forall_mem_cons.2 ⟨hx, h⟩

/-- unsigned addition wraps exactly when the result is below an operand: the carry test of every loop -/
theorem wrap_add (a b : Nat) (ha : a < B) (hb : b < B) :
    (a + b) % B < B ∧ ((a + b) % B = a + b ∧ a ≤ (a + b) % B ∨ (a + b) % B + B = a + b ∧ (a + b) % B < a) := by
  unfold B at *; omega

/-- unsigned subtraction wraps exactly when the result is above the minuend: the borrow test -/
theorem wrap_sub (a b : Nat) (ha : a < B) (hb : b < B) :
    (a + B - b) % B < B ∧ ((a + B - b) % B + b = a ∧ (a + B - b) % B ≤ a ∨ (a + B - b) % B + b = a + B ∧ a < (a + B - b) % B) := by
  unfold B at *; omega

/-- the sum word and the carry the code reads off it -/
theorem add_carry {a b : Nat} (ha : a < B) (hb : b < B) :
    (a + b) % B < B ∧ (if (a + b) % B < a then 1 else 0) ≤ 1 ∧ (a + b) % B + B * (if (a + b) % B < a then 1 else 0) = a + b := by
  obtain ⟨hd, w⟩ := wrap_add a b ha hb
  split <;> omega

/-- the induction step of every ripple loop: word `r` with carry `k` out of `x` and the incoming `s`, the higher words by induction -/
theorem limb_step {r x s k v' v cout P : Nat} (hw : r + B * k = x + s) (ih : v' + cout * P = v + k) :
    (r + B * v') + cout * (P * B) = (x + B * v) + s := by
  have h := congrArg (B * ·) ih
  simp only [Nat.mul_add] at h
  rw [Nat.mul_comm P B, Nat.mul_left_comm cout B P]
  omega

theorem limb_step2 {r x y c k v' vx vy cout P : Nat} (hw : r + B * k = x + (y + c)) (ih : v' + cout * P = vx + vy + k) :
    (r + B * v') + cout * (P * B) = (x + B * vx) + (y + B * vy) + c := by
  rw [limb_step hw ih, Nat.mul_add]
  omega

theorem carryLoop_spec : ∀ (xs : List Nat) (c : Nat), Words xs → c ≤ 1 →
    ∃ cout, cout ≤ 1 ∧ val (carryLoop xs c) + cout * B ^ xs.length = val xs + c ∧
      (carryLoop xs c).length = xs.length ∧ Words (carryLoop xs c)
  | [], c, _, hc => ⟨c, hc, by simp [carryLoop, val], rfl, fun _ h => by simp [carryLoop] at h⟩
  | x :: xs, c, hw, hc => by
    by_cases h0 : c = 0
    · subst h0
      exact ⟨0, by omega, by simp [carryLoop], by simp [carryLoop], by simpa [carryLoop] using hw⟩
    · simp only [carryLoop, h0, if_false]
      obtain ⟨hd, hk, hwd⟩ := add_carry (a := c) (b := x) (by have := two_le_B; omega) hw.head
      rw [Nat.add_comm c x] at hd hk hwd
      obtain ⟨cout, h1, h2, h3, h4⟩ := carryLoop_spec xs _ hw.tail hk
      refine ⟨cout, h1, ?_, congrArg (· + 1) h3, h4.cons hd⟩
      simp only [val, List.length_cons, Nat.pow_succ]
      exact limb_step hwd h2

/-- one word of `addLoop`: the two carries cannot both occur -/
theorem word_add {x y c d r : Nat} (hx : x < B) (hy : y < B) (hc : c ≤ 1) (hd : d = (x + c) % B) (hr : r = (d + y) % B) :
    r < B ∧ (if r < d then 1 else if d < c then 1 else 0) ≤ 1 ∧
      r + B * (if r < d then 1 else if d < c then 1 else 0) = x + (y + c) := by
  obtain ⟨hdB, w1⟩ := wrap_add x c hx (by have := two_le_B; omega)
  rw [← hd] at hdB w1
  obtain ⟨hrB, w2⟩ := wrap_add d y hdB hy
  rw [← hr] at hrB w2
  clear hd hr
  split
  · omega
  · split <;> omega

theorem addLoop_spec : ∀ (xs ys : List Nat) (c : Nat), Words xs → Words ys → c ≤ 1 → ys.length ≤ xs.length →
    ∃ cout, cout ≤ 1 ∧ val (addLoop xs ys c) + cout * B ^ xs.length = val xs + val ys + c ∧
      (addLoop xs ys c).length = xs.length ∧ Words (addLoop xs ys c)
  | xs, [], c, hx, _, hc, _ => by
    have e : addLoop xs [] c = carryLoop xs c := by cases xs <;> rfl
    rw [e]
    exact carryLoop_spec xs c hx hc
  | [], y :: ys, c, _, _, _, hl => by simp at hl
  | x :: xs, y :: ys, c, hx, hy, hc, hl => by
    simp only [addLoop]
    obtain ⟨hr, hk, hw⟩ := word_add hx.head hy.head hc rfl rfl
    obtain ⟨cout, h1, h2, h3, h4⟩ := addLoop_spec xs ys _ hx.tail hy.tail hk (by simpa using hl)
    refine ⟨cout, h1, ?_, congrArg (· + 1) h3, h4.cons hr⟩
    simp only [val, List.length_cons, Nat.pow_succ]
    exact limb_step2 hw h2

theorem addLoop_val (xs ys : List Nat) (hx : Words xs) (hy : Words ys) (hl : ys.length ≤ xs.length)
    (hfit : val xs + val ys < B ^ xs.length) : val (addLoop xs ys 0) = val xs + val ys ∧ Words (addLoop xs ys 0) := by
  obtain ⟨cout, h1, h2, _, h4⟩ := addLoop_spec xs ys 0 hx hy (by omega) hl
  refine ⟨?_, h4⟩
  rcases (by omega : cout = 0 ∨ cout = 1) with rfl | rfl
  · omega
  · simp only [Nat.one_mul] at h2; omega

theorem addMag_val (x y : List Nat) (hx : Words x) (hy : Words y) :
    val (addMag x y) = val x + val y ∧ Words (addMag x y) := by
  unfold addMag
  have hpl := length_padTo (max x.length y.length + 1) x (by omega)
  have h := addLoop_val (padTo (max x.length y.length + 1) x) y (words_padTo _ hx) hy (by rw [hpl]; omega) (by
    -- both operands are below B^max, and 2 ≤ B
    rw [val_padTo, hpl, Nat.pow_succ]
    have hxl := val_lt hx
    have hyl := val_lt hy
    have hpx : B ^ x.length ≤ B ^ max x.length y.length := Nat.pow_le_pow_right (n := B) B_pos (Nat.le_max_left _ _)
    have hpy : B ^ y.length ≤ B ^ max x.length y.length := Nat.pow_le_pow_right (n := B) B_pos (Nat.le_max_right _ _)
    have h2B : B ^ max x.length y.length * 2 ≤ B ^ max x.length y.length * B := Nat.mul_le_mul_left _ two_le_B
    omega)
  rwa [val_padTo] at h

theorem word_borrow {x b : Nat} (hx : x < B) (hb : b ≤ 1) :
    (x + B - b) % B < B ∧ (if (x + B - b) % B > x then 1 else 0) ≤ 1 ∧
      x + B * (if (x + B - b) % B > x then 1 else 0) = (x + B - b) % B + b := by
  obtain ⟨hd, w⟩ := wrap_sub x b hx (by have := two_le_B; omega)
  split <;> omega

theorem borrowLoop_spec : ∀ (xs : List Nat) (b : Nat), Words xs → b ≤ 1 →
    ∃ bout, bout ≤ 1 ∧ val xs + bout * B ^ xs.length = val (borrowLoop xs b) + b ∧
      (borrowLoop xs b).length = xs.length ∧ Words (borrowLoop xs b)
  | [], b, _, hb => ⟨b, hb, by simp [borrowLoop, val], rfl, fun _ h => by simp [borrowLoop] at h⟩
  | x :: xs, b, hw, hb => by
    by_cases h0 : b = 0
    · subst h0
      exact ⟨0, by omega, by simp [borrowLoop], by simp [borrowLoop], by simpa [borrowLoop] using hw⟩
    · simp only [borrowLoop, h0, if_false]
      obtain ⟨hd, hk, hwd⟩ := word_borrow hw.head hb
      obtain ⟨bout, h1, h2, h3, h4⟩ := borrowLoop_spec xs _ hw.tail hk
      refine ⟨bout, h1, ?_, congrArg (· + 1) h3, h4.cons hd⟩
      simp only [val, List.length_cons, Nat.pow_succ]
      exact limb_step hwd h2

/-- one word of `subLoop`: the two borrows cannot both occur -/
theorem word_sub {x y b d r : Nat} (hx : x < B) (hy : y < B) (hb : b ≤ 1) (hd : d = (x + B - b) % B) (hr : r = (d + B - y) % B) :
    r < B ∧ (if r > d then 1 else if d > x then 1 else 0) ≤ 1 ∧
      x + B * (if r > d then 1 else if d > x then 1 else 0) = r + (y + b) := by
  obtain ⟨hdB, w1⟩ := wrap_sub x b hx (by have := two_le_B; omega)
  rw [← hd] at hdB w1
  obtain ⟨hrB, w2⟩ := wrap_sub d y hdB hy
  rw [← hr] at hrB w2
  clear hd hr
  split
  · omega
  · split <;> omega

theorem subLoop_spec : ∀ (xs ys : List Nat) (b : Nat), Words xs → Words ys → b ≤ 1 → ys.length ≤ xs.length →
    ∃ bout, bout ≤ 1 ∧ val xs + bout * B ^ xs.length = val (subLoop xs ys b) + val ys + b ∧
      (subLoop xs ys b).length = xs.length ∧ Words (subLoop xs ys b)
  | xs, [], b, hx, _, hb, _ => by
    have e : subLoop xs [] b = borrowLoop xs b := by cases xs <;> rfl
    rw [e]
    simpa [val] using borrowLoop_spec xs b hx hb
  | [], y :: ys, b, _, _, _, hl => by simp at hl
  | x :: xs, y :: ys, b, hx, hy, hb, hl => by
    simp only [subLoop]
    obtain ⟨hr, hk, hw⟩ := word_sub hx.head hy.head hb rfl rfl
    obtain ⟨bout, h1, h2, h3, h4⟩ := subLoop_spec xs ys _ hx.tail hy.tail hk (by simpa using hl)
    refine ⟨bout, h1, ?_, congrArg (· + 1) h3, h4.cons hr⟩
    simp only [val, List.length_cons, Nat.pow_succ]
    exact limb_step2 hw h2

/-- magnitude subtraction is exact whenever the code takes this branch (|this| ≥ |y|) -/
theorem subLoop_val (x y : List Nat) (hx : Words x) (hy : Words y) (hl : y.length ≤ x.length) (hge : val y ≤ val x) :
    val (subLoop x y 0) = val x - val y ∧ Words (subLoop x y 0) := by
  obtain ⟨bout, h1, h2, h3, h4⟩ := subLoop_spec x y 0 hx hy (by omega) hl
  refine ⟨?_, h4⟩
  have hlt := val_lt h4
  rw [h3] at hlt
  rcases (by omega : bout = 0 ∨ bout = 1) with rfl | rfl
  · omega
  · simp only [Nat.one_mul] at h2; omega

theorem stripHigh_val : ∀ (xs : List Nat), val (stripHigh xs) = val xs
  | [] => rfl
  | x :: xs => by
    have ih := stripHigh_val xs
    simp only [stripHigh]
    cases h : stripHigh xs with
    | nil =>
      rw [h] at ih
      by_cases hx : x = 0
      · simp [hx, val, ← ih]
      · simp [hx, val, ← ih]
    | cons y ys =>
      rw [h] at ih
      simp [val, ← ih]

theorem stripHigh_words : ∀ {xs : List Nat}, Words xs → Words (stripHigh xs)
  | [], _ => fun _ h => by simp [stripHigh] at h
  | x :: xs, hw => by
    have ih := stripHigh_words hw.tail
    simp only [stripHigh]
    cases h : stripHigh xs with
    | nil =>
      by_cases hx : x = 0
      · simp [hx]; exact fun _ h => by simp at h
      · simp only [hx, if_false]; intro z hz; simp at hz; rw [hz]; exact hw.head
    | cons y ys =>
      rw [h] at ih
      intro z hz
      rcases List.mem_cons.1 hz with e | e
      · rw [e]; exact hw.head
      · exact ih z e

theorem toInt_reduce (n : Bool) (m : List Nat) : toInt (reduce n m) = toInt { neg := n, mag := m } := by
  unfold reduce toInt
  simp only []
  by_cases hz : stripHigh m = []
  · have : val m = 0 := by rw [← stripHigh_val, hz]; rfl
    simp [hz, this, val]
  · simp [hz, stripHigh_val]

end BigInt
end Model
end JV
