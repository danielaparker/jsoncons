/-
  JV.Proofs.MsgpackParser — the msgpack_parser model (JV.Model.MsgpackParser) against the MessagePack reference decoder
  (JV.Spec.Msgpack): the length / number / string readers agree with `takeN` / `beVal` / `toSigned`, and by induction on the fuel the
  three mutually recursive readers agree (`Agrees`) with the reference's `item` / `items` / `members`. The item dispatch goes family
  by family of type bytes: the model's head equations are here, the reference's in JV.Proofs.MsgpackSpec.
-/
import JV.Model.MsgpackParser
import JV.Spec.BinFormats
import JV.Proofs.CborParser
import JV.Proofs.MsgpackSpec
namespace JV.Model.MsgpackParser
open JV Spec.Cbor Spec

theorem readBE_eq (w : Nat) (s : Bytes) :
    readBE w s = match takeN w s with | none => .fail (.err .unexpectedEof) | some (d, r) => .ok (beVal d) r := by
  unfold readBE takeN
  split <;> simp [Model.CborParser.bigToNative_eq_beVal]

theorem readSpan_eq (n : Nat) (s : Bytes) :
    readSpan n s = match takeN n s with | none => .fail (.err .unexpectedEof) | some (d, r) => .ok d r := by
  unfold readSpan takeN
  split <;> rfl

theorem readBE_some {w : Nat} {s d r : Bytes} (h : takeN w s = some (d, r)) : readBE w s = .ok (beVal d) r := by
  rw [readBE_eq, h]

theorem readBE_one (x : Nat) (s : Bytes) : readBE 1 (x :: s) = .ok x s := by
  simp [readBE, Model.CborParser.bigToNative]

theorem readSpan_some {n : Nat} {s d r : Bytes} (h : takeN n s = some (d, r)) : readSpan n s = .ok d r := by
  rw [readSpan_eq, h]

theorem takeN_length {n : Nat} {s d r : Bytes} (h : takeN n s = some (d, r)) : s.length = n + r.length ∧ d.length = n := by
  unfold takeN at h
  split at h
  · simp at h
  · simp only [Option.some.injEq, Prod.mk.injEq] at h
    obtain ⟨h1, h2⟩ := h
    subst h1; subst h2
    simp; omega

theorem takeN_none_length {n : Nat} {s : Bytes} (h : takeN n s = none) : s.length < n := by
  unfold takeN at h
  split at h
  · assumption
  · simp at h

theorem badUtf8_eq (b : Bytes) : badUtf8 b = !Spec.Rfc8259.validUtf8 b :=
  Model.CborParser.badUtf8_eq b

/-- `big_to_native<int8_t/int16_t/int32_t/int64_t>` is the two's complement reading the specification prescribes -/
theorem asSigned_eq (w v : Nat) : asSigned w v = toSigned (8 * w) v := by
  unfold asSigned toSigned
  by_cases h : v < 2 ^ (8 * w - 1)
  · have : ¬ v ≥ 2 ^ (8 * w - 1) := by omega
    simp [h, this]
  · have : v ≥ 2 ^ (8 * w - 1) := by omega
    simp [h, this]

theorem beVal_lt (d : Bytes) (hb : ∀ x ∈ d, x < 256) : beVal d < 256 ^ d.length := by
  induction d with
  | nil => simp [beVal]
  | cons x xs ih =>
    have h1 : x < 256 := hb x (by simp)
    have h2 := ih (fun y hy => hb y (by simp [hy]))
    simp only [beVal, List.length_cons, Nat.pow_succ]
    have : x * 256 ^ xs.length ≤ 255 * 256 ^ xs.length := Nat.mul_le_mul_right _ (by omega)
    omega

theorem getSize_fix {ty : Nat} (h : 0x80 ≤ ty ∧ ty ≤ 0x9f) (s : Bytes) : getSize ty s = .ok (ty % 16) s := by
  -- every type byte the earlier tests name is 0xc4 or above
  have ne : ∀ c, 0xc4 ≤ c → ¬ ty = c := fun c hc e => absurd (e ▸ hc) (by omega)
  simp [getSize, ne, show 0x8f < ty ∧ ty ≤ 0x9f ∨ 0x7f < ty ∧ ty ≤ 0x8f by omega]

/-- failures that carry no claim about the status of the input: outside the fragment, or an implementation limit -/
def Fail.lenient : Fail → Bool
  | .skip => true
  | .err .maxNestingDepthExceeded => true
  | _ => false

/-- the model's outcome `m` is compatible with the reference's `r`, values compared through `conv` (table at `JV.Props.C07.msgpack_parser_model_refines_spec`) -/
def Agrees {α β : Type} (conv : α → Option β) (m : Res α) (r : Spec.Cbor.Res β) : Prop :=
  match m, r with
  | .ok v rest, .ok w rest2 => conv v = some w ∧ rest = rest2
  | .ok v _, .unjudged => conv v = none
  | .ok _ _, .illformed => False
  | .fail f, .ok _ _ => f.lenient = true
  | .fail _, _ => True

theorem agrees_lenient {α β : Type} (conv : α → Option β) (f : Fail) (h : f.lenient = true) (r : Spec.Cbor.Res β) :
    Agrees conv (.fail f) r := by
  cases r <;> simp [Agrees, h]

/-- `readExt` is made of this step: `w` bytes are read, then the rest goes on; if the whole succeeds the bytes were there -/
theorem readBE_then_ok {w : Nat} {s : Bytes} {k : Nat → Bytes → Res Item} {v : Item} {rest : Bytes}
    (h : (match readBE w s with | .fail f => Res.fail f | .ok x r => k x r) = .ok v rest) :
    ∃ x r, s.length = w + r.length ∧ k x r = .ok v rest := by
  rw [readBE_eq] at h
  cases ht : takeN w s with
  | none => rw [ht] at h; cases h
  | some p => rw [ht] at h; exact ⟨_, _, (takeN_length ht).1, h⟩

/-- an accepted ext item has its type byte and whole payload present, and is outside the judged value mapping -/
theorem readExt_ok {len : Nat} {s : Bytes} {v : Item} {rest : Bytes} (h : readExt len s = .ok v rest) :
    ¬ s.length < len + 1 ∧ toBV textKey false v = none := by
  unfold readExt at h
  obtain ⟨ty, s1, l1, h⟩ := readBE_then_ok h
  split at h
  · rename_i hc
    obtain ⟨x, r, l2, h⟩ := readBE_then_ok h
    cases h
    exact ⟨by omega, rfl⟩
  · split at h
    · rename_i hc
      obtain ⟨x, r, l2, h⟩ := readBE_then_ok h
      cases h
      exact ⟨by omega, rfl⟩
    · split at h
      · rename_i hc
        obtain ⟨x, s2, l2, h⟩ := readBE_then_ok h
        obtain ⟨y, r, l3, h⟩ := readBE_then_ok h
        cases h
        exact ⟨by omega, rfl⟩
      · rw [readSpan_eq] at h
        cases ht : takeN len s1 with
        | none => rw [ht] at h; cases h
        | some p =>
          rw [ht] at h
          cases h
          exact ⟨by have := (takeN_length ht).1; omega, rfl⟩

theorem readExt_agrees (len : Nat) (s : Bytes) :
    Agrees (toBV textKey false) (readExt len s) (if s.length < len + 1 then Spec.Cbor.Res.illformed else Spec.Cbor.Res.unjudged) := by
  cases h : readExt len s with
  | fail f => split <;> simp [Agrees]
  | ok v rest =>
    obtain ⟨h1, h2⟩ := readExt_ok h
    simp [h1, Agrees, h2]

theorem readStr_agrees (n : Nat) (s : Bytes) :
    Agrees (toBV textKey false) (readStr n s)
      (match takeN n s with
       | none => Spec.Cbor.Res.illformed
       | some (d, r) => if Rfc8259.validUtf8 d then .ok (.str d "") r else .illformed) := by
  rw [readStr, readSpan_eq]
  cases takeN n s with
  | none => exact True.intro
  | some p => cases hu : Rfc8259.validUtf8 p.1 <;> simp [badUtf8_eq, hu, Agrees, toBV]

theorem readBin_agrees (n : Nat) (s : Bytes) :
    Agrees (toBV textKey false) (readBin n s)
      (match takeN n s with
       | none => Spec.Cbor.Res.illformed
       | some (d, r) => .ok (.bytes d "") r) := by
  rw [readBin, readSpan_eq]
  cases takeN n s with
  | none => exact True.intro
  | some p => exact ⟨rfl, rfl⟩

theorem textKey_none_of_toBV_none (k : Item) (h : toBV textKey false k = none) : textKey k = none := by
  cases k with
  | str s0 => cases h
  | _ => rfl

theorem toBV_str (k : Item) (kb : Bytes) (tg : String) (h : toBV textKey false k = some (.str kb tg)) : k = .str kb := by
  cases k <;> simp_all [toBV]
  all_goals (rename_i xs; cases hx : toBVList textKey false xs <;> simp_all)

theorem textKey_none_of_not_str (k : Item) (w : BV) (h : toBV textKey false k = some w) (hw : ∀ kb tg, w ≠ .str kb tg) : textKey k = none := by
  cases k with
  | str s0 => exact absurd (Option.some.inj h).symm (hw s0 "")
  | _ => rfl

/-- the model's side is the body of `items`, as it stands after unfolding -/
theorem agrees_cons {x : Res Item} {y : Spec.Cbor.Res BV} (hx : Agrees (toBV textKey false) x y)
    {xs : Bytes → Res (List Item)} {ys : Bytes → Spec.Cbor.Res (List BV)}
    (hxs : ∀ s1, Agrees (toBVList textKey false) (xs s1) (ys s1)) :
    Agrees (toBVList textKey false)
      (match (generalizing := false) x with
       | .fail f => .fail f
       | .ok v s1 => match xs s1 with
         | .ok vs rest => .ok (v :: vs) rest
         | .fail f => .fail f)
      (y.thenCons ys) := by
  cases x with
  | fail f =>
    cases y with
    | ok w s1 => exact agrees_lenient _ f hx _
    | illformed => exact True.intro
    | unjudged => exact True.intro
  | ok v s1 =>
    cases y with
    | illformed => exact hx.elim
    | unjudged => cases h : xs s1 <;> simp [h, Agrees, Spec.Cbor.Res.thenCons, toBVList, show toBV textKey false v = none from hx]
    | ok w s2 =>
      obtain ⟨hv, rfl⟩ := hx
      have := hxs s1
      cases hm : xs s1 <;> cases hs : ys s1 <;> simp_all [Agrees, Spec.Cbor.Res.thenCons, Spec.Cbor.Res.map, toBVList]

/-- the model's side is the body of `members` -/
theorem agrees_member {xk : Res Item} {yk : Spec.Cbor.Res BV} (hk : Agrees (toBV textKey false) xk yk)
    {xv : Bytes → Res Item} {yv : Bytes → Spec.Cbor.Res BV} (hv : ∀ s1, Agrees (toBV textKey false) (xv s1) (yv s1))
    {xms : Bytes → Res (List (Item × Item))} {yms : Bytes → Spec.Cbor.Res (List (Bytes × BV))}
    (hms : ∀ s2, Agrees (toBVMembers textKey false) (xms s2) (yms s2)) :
    Agrees (toBVMembers textKey false)
      (match (generalizing := false) xk with
       | .fail f => .fail f
       | .ok k s1 => match xv s1 with
         | .fail f => .fail f
         | .ok v s2 => match xms s2 with
           | .ok ms rest => .ok ((k, v) :: ms) rest
           | .fail f => .fail f)
      (yk.thenMember yv yms) := by
  -- a key that is not a text string: the reference answers unjudged, so all that is owed is that the model's members have no image
  have not_text : ∀ k s1, textKey k = none →
      Agrees (toBVMembers textKey false)
        (match xv s1 with
         | .fail f => .fail f
         | .ok v s2 => match xms s2 with
           | .ok ms rest => .ok ((k, v) :: ms) rest
           | .fail f => .fail f)
        .unjudged := by
    intro k s1 hk
    cases xv s1 with
    | fail f => exact True.intro
    | ok v s2 => cases h : xms s2 <;> simp [h, Agrees, toBVMembers, hk]
  cases xk with
  | fail f =>
    cases yk with
    | ok w s1 => exact agrees_lenient _ f hk _
    | illformed => exact True.intro
    | unjudged => exact True.intro
  | ok k s1 =>
    cases yk with
    | illformed => exact hk.elim
    | unjudged => exact not_text k s1 (textKey_none_of_toBV_none k hk)
    | ok w s1' =>
      obtain ⟨hkw, rfl⟩ := hk
      by_cases hstr : ∃ kb tg, w = .str kb tg
      · obtain ⟨kb, tg, rfl⟩ := hstr
        obtain rfl := toBV_str k kb tg hkw
        have h1 := hv s1
        simp only [Spec.Cbor.Res.thenMember]
        cases hxv : xv s1 with
        | fail f =>
          cases hyv : yv s1 with
          | ok w' s2 => rw [hxv, hyv] at h1; exact agrees_lenient _ f h1 _
          | illformed => exact True.intro
          | unjudged => exact True.intro
        | ok v s2 =>
          cases hyv : yv s1 with
          | illformed => rw [hxv, hyv] at h1; exact h1.elim
          | unjudged =>
            rw [hxv, hyv] at h1
            cases h : xms s2 <;> simp [h, Agrees, toBVMembers, textKey, show toBV textKey false v = none from h1]
          | ok w' s2' =>
            rw [hxv, hyv] at h1
            obtain ⟨hvw, rfl⟩ := h1
            have h2 := hms s2
            clear hv hms not_text   -- quantified hypotheses that `simp_all` would otherwise carry along, which is slow to check
            cases hm : xms s2 <;> cases hs : yms s2 <;> simp_all [Agrees, Spec.Cbor.Res.map, toBVMembers, textKey]
      · have hk' := textKey_none_of_not_str k w hkw (fun kb tg e => hstr ⟨kb, tg, e⟩)
        have : (Spec.Cbor.Res.ok w s1).thenMember yv yms = .unjudged := by
          cases w <;> first | rfl | exact absurd ⟨_, _, rfl⟩ hstr
        rw [this]
        exact not_text k s1 hk'

section step
variable (maxD fuel : Nat)
variable (hI : ∀ d s, Agrees (toBV textKey false) (item maxD fuel d s) (Spec.Msgpack.item fuel s))

include hI in
theorem items_step (hL : ∀ d n s, Agrees (toBVList textKey false) (items maxD fuel d n s) (Spec.Msgpack.items fuel n s)) :
    ∀ d n s, Agrees (toBVList textKey false) (items maxD (fuel + 1) d n s) (Spec.Msgpack.items (fuel + 1) n s) := by
  intro d n s
  cases n with
  | zero => exact ⟨rfl, rfl⟩
  | succ n => rw [items, Spec.Msgpack.spec_items_succ]; exact agrees_cons (hI d s) (hL d n)

include hI in
theorem members_step (hL : ∀ d n s, Agrees (toBVMembers textKey false) (members maxD fuel d n s) (Spec.Msgpack.members fuel n s)) :
    ∀ d n s, Agrees (toBVMembers textKey false) (members maxD (fuel + 1) d n s) (Spec.Msgpack.members (fuel + 1) n s) := by
  intro d n s
  cases n with
  | zero => exact ⟨rfl, rfl⟩
  | succ n => rw [members, Spec.Msgpack.spec_members_succ]; exact agrees_member (hI d s) (hI d) (hL d n)

end step

/-! ### the heads of the model's `item`, in the families of the format: consecutive type bytes, the field width doubling -/

def afterLen (w : Nat) (s : Bytes) (k : Nat → Bytes → Res Item) : Res Item :=
  match readBE w s with
  | .fail f => .fail f
  | .ok n r => k n r

def arrOf : Res (List Item) → Res Item
  | .ok xs r => .ok (.arr xs) r
  | .fail f => .fail f

def mapOf : Res (List (Item × Item)) → Res Item
  | .ok ms r => .ok (.map ms) r
  | .fail f => .fail f

section equations
variable (maxD fuel d : Nat) (s : Bytes)

theorem item_posfix (b : Nat) (h : b ≤ 0x7f) : item maxD (fuel + 1) d (b :: s) = .ok (.uint b) s := by
  rw [item, if_neg (by omega), if_pos h]

/-- fixmap: `begin_object` counts the level, the length is in the type byte -/
theorem item_fixmap (b : Nat) (h1 : 0x80 ≤ b) (h2 : b ≤ 0x8f) : item maxD (fuel + 1) d (b :: s) =
    if d + 1 > maxD then .fail (.err .maxNestingDepthExceeded) else mapOf (members maxD fuel (d + 1) (b % 16) s) := by
  rw [item, if_neg (by omega), if_neg (by omega), if_pos (Or.inl h2), getSize_fix ⟨h1, by omega⟩]
  rfl

theorem item_fixarr (b : Nat) (h1 : 0x90 ≤ b) (h2 : b ≤ 0x9f) : item maxD (fuel + 1) d (b :: s) =
    if d + 1 > maxD then .fail (.err .maxNestingDepthExceeded) else arrOf (items maxD fuel (d + 1) (b % 16) s) := by
  rw [item, if_neg (by omega), if_neg (by omega), if_neg (by omega), if_pos (Or.inl h2), getSize_fix ⟨by omega, h2⟩]
  rfl

theorem item_fixstr (b : Nat) (h1 : 0xa0 ≤ b) (h2 : b ≤ 0xbf) : item maxD (fuel + 1) d (b :: s) = readStr (b % 32) s := by
  rw [item, if_neg (by omega), if_neg (by omega), if_neg (by omega), if_neg (by omega), if_pos h2]

theorem item_negfix (b : Nat) (h1 : 0xe0 ≤ b) (h2 : b < 256) : item maxD (fuel + 1) d (b :: s) = .ok (.nint ((b : Int) - 256)) s := by
  rw [item, if_neg (by omega), if_neg (by omega), if_neg (by omega), if_neg (by omega), if_neg (by omega), if_pos h1]

theorem item_f32 : item maxD (fuel + 1) d (0xca :: s) = number 4 s fun v => .dbl (f32ToF64 v) := rfl
theorem item_f64 : item maxD (fuel + 1) d (0xcb :: s) = number 8 s .dbl := rfl

theorem item_uint (k : Nat) (hk : k < 4) : item maxD (fuel + 1) d ((0xcc + k) :: s) = number (2 ^ k) s .uint := by
  rcases (by omega : k = 0 ∨ k = 1 ∨ k = 2 ∨ k = 3) with rfl | rfl | rfl | rfl <;> rfl

theorem item_sint (k : Nat) (hk : k < 4) :
    item maxD (fuel + 1) d ((0xd0 + k) :: s) = number (2 ^ k) s fun v => .nint (asSigned (2 ^ k) v) := by
  rcases (by omega : k = 0 ∨ k = 1 ∨ k = 2 ∨ k = 3) with rfl | rfl | rfl | rfl <;> rfl

/-- str8/16/32, bin8/16/32, ext8/16/32: a length of 2^k bytes, then the payload reader -/
theorem item_sized (k : Nat) (hk : k < 3) :
    item maxD (fuel + 1) d ((0xd9 + k) :: s) = afterLen (2 ^ k) s readStr ∧
    item maxD (fuel + 1) d ((0xc4 + k) :: s) = afterLen (2 ^ k) s readBin ∧
    item maxD (fuel + 1) d ((0xc7 + k) :: s) = afterLen (2 ^ k) s readExt := by
  rcases (by omega : k = 0 ∨ k = 1 ∨ k = 2) with rfl | rfl | rfl <;> exact ⟨rfl, rfl, rfl⟩

/-- fixext1/2/4/8/16: the payload length is given by the type byte -/
theorem item_fixext (k : Nat) (hk : k < 5) : item maxD (fuel + 1) d ((0xd4 + k) :: s) = readExt (2 ^ k) s := by
  rcases (by omega : k = 0 ∨ k = 1 ∨ k = 2 ∨ k = 3 ∨ k = 4) with rfl | rfl | rfl | rfl | rfl <;> rfl

/-- array16/32 and map16/32: the level is counted before the 2·2^k length bytes are read -/
theorem item_container (k : Nat) (hk : k < 2) :
    item maxD (fuel + 1) d ((0xdc + k) :: s) =
      (if d + 1 > maxD then .fail (.err .maxNestingDepthExceeded)
       else afterLen (2 * 2 ^ k) s fun n s1 => arrOf (items maxD fuel (d + 1) n s1)) ∧
    item maxD (fuel + 1) d ((0xde + k) :: s) =
      (if d + 1 > maxD then .fail (.err .maxNestingDepthExceeded)
       else afterLen (2 * 2 ^ k) s fun n s1 => mapOf (members maxD fuel (d + 1) n s1)) := by
  rcases (by omega : k = 0 ∨ k = 1) with rfl | rfl <;> exact ⟨rfl, rfl⟩

end equations

theorem afterLen_agrees (w : Nat) (s : Bytes) (k : Nat → Bytes → Res Item) (ks : Nat → Bytes → Spec.Cbor.Res BV)
    (h : ∀ n r, Agrees (toBV textKey false) (k n r) (ks n r)) :
    Agrees (toBV textKey false) (afterLen w s k) (Spec.Msgpack.lenThen w s ks) := by
  rw [afterLen, Spec.Msgpack.lenThen, readBE_eq]
  cases takeN w s with
  | none => exact True.intro
  | some p => exact h _ _

theorem number_agrees (w : Nat) (s : Bytes) (mk : Nat → Item) (f : Nat → BV) (h : ∀ v, toBV textKey false (mk v) = some (f v)) :
    Agrees (toBV textKey false) (number w s mk) (Spec.Msgpack.lenThen w s fun v r => .ok (f v) r) :=
  afterLen_agrees w s (fun v r => .ok (mk v) r) _ fun v _ => ⟨h v, rfl⟩

theorem arrOf_agrees {m : Res (List Item)} {r : Spec.Cbor.Res (List BV)} (h : Agrees (toBVList textKey false) m r) :
    Agrees (toBV textKey false) (arrOf m) (Spec.Msgpack.wrapArr r) := by
  cases m <;> cases r <;> simp_all [Agrees, arrOf, Spec.Msgpack.wrapArr, toBV]

theorem mapOf_agrees {m : Res (List (Item × Item))} {r : Spec.Cbor.Res (List (Bytes × BV))} (h : Agrees (toBVMembers textKey false) m r) :
    Agrees (toBV textKey false) (mapOf m) (Spec.Msgpack.wrapMap r) := by
  cases m <;> cases r <;> simp_all [Agrees, mapOf, Spec.Msgpack.wrapMap, toBV]

theorem item_step (maxD fuel : Nat)
    (hL : ∀ d n s, Agrees (toBVList textKey false) (items maxD fuel d n s) (Spec.Msgpack.items fuel n s))
    (hM : ∀ d n s, Agrees (toBVMembers textKey false) (members maxD fuel d n s) (Spec.Msgpack.members fuel n s)) :
    ∀ d s, Agrees (toBV textKey false) (item maxD (fuel + 1) d s) (Spec.Msgpack.item (fuel + 1) s) := by
  intro d s
  cases s with
  | nil => exact True.intro
  | cons b s =>
    have signed : ∀ w v, toBV textKey false (.nint (asSigned w v)) = some (.int (toSigned (8 * w) v) "") :=
      fun w v => congrArg (fun i => some (BV.int i "")) (asSigned_eq w v)
    have deep : ∀ (x : Res Item) (r : Spec.Cbor.Res BV), Agrees (toBV textKey false) x r →
        Agrees (toBV textKey false) (if d + 1 > maxD then .fail (.err .maxNestingDepthExceeded) else x) r := by
      intro x r h
      split
      · exact agrees_lenient _ (.err .maxNestingDepthExceeded) rfl _
      · exact h
    rcases (by omega : b ≤ 0x7f ∨ (0x80 ≤ b ∧ b ≤ 0x8f) ∨ (0x90 ≤ b ∧ b ≤ 0x9f) ∨ (0xa0 ≤ b ∧ b ≤ 0xbf) ∨ (0xc0 ≤ b ∧ b ≤ 0xc3) ∨
        (0xc4 ≤ b ∧ b ≤ 0xc6) ∨ (0xc7 ≤ b ∧ b ≤ 0xc9) ∨ b = 0xca ∨ b = 0xcb ∨ (0xcc ≤ b ∧ b ≤ 0xcf) ∨ (0xd0 ≤ b ∧ b ≤ 0xd3) ∨
        (0xd4 ≤ b ∧ b ≤ 0xd8) ∨ (0xd9 ≤ b ∧ b ≤ 0xdb) ∨ (0xdc ≤ b ∧ b ≤ 0xdd) ∨ (0xde ≤ b ∧ b ≤ 0xdf) ∨ (0xe0 ≤ b ∧ b < 256) ∨ 256 ≤ b)
      with h | h | h | h | h | h | h | rfl | rfl | h | h | h | h | h | h | h | h
    · rw [item_posfix maxD fuel d s b h, Spec.Msgpack.spec_posfix fuel b s h]; exact ⟨rfl, rfl⟩
    · rw [item_fixmap maxD fuel d s b h.1 h.2, Spec.Msgpack.spec_fixmap fuel b s h.1 h.2, show b - 0x80 = b % 16 by omega]
      exact deep _ _ (mapOf_agrees (hM _ _ _))
    · rw [item_fixarr maxD fuel d s b h.1 h.2, Spec.Msgpack.spec_fixarr fuel b s h.1 h.2, show b - 0x90 = b % 16 by omega]
      exact deep _ _ (arrOf_agrees (hL _ _ _))
    · rw [item_fixstr maxD fuel d s b h.1 h.2, Spec.Msgpack.spec_fixstr fuel b s h.1 h.2, show b - 0xa0 = b % 32 by omega]
      exact readStr_agrees _ _
    · -- nil, 0xc1 (never used), false, true
      rcases (by omega : b = 0xc0 ∨ b = 0xc1 ∨ b = 0xc2 ∨ b = 0xc3) with rfl | rfl | rfl | rfl
      · exact ⟨rfl, rfl⟩
      · exact True.intro
      · exact ⟨rfl, rfl⟩
      · exact ⟨rfl, rfl⟩
    · obtain ⟨k, rfl⟩ : ∃ k, b = 0xc4 + k := ⟨b - 0xc4, by omega⟩
      rw [(item_sized maxD fuel d s k (by omega)).2.1, Spec.Msgpack.spec_bin fuel k (by omega) s]
      exact afterLen_agrees _ s _ _ readBin_agrees
    · obtain ⟨k, rfl⟩ : ∃ k, b = 0xc7 + k := ⟨b - 0xc7, by omega⟩
      rw [(item_sized maxD fuel d s k (by omega)).2.2, Spec.Msgpack.spec_ext fuel k (by omega) s]
      exact afterLen_agrees _ s _ _ readExt_agrees
    · rw [item_f32, Spec.Msgpack.spec_f32]; exact number_agrees 4 s _ _ fun _ => rfl
    · rw [item_f64, Spec.Msgpack.spec_f64]; exact number_agrees 8 s _ _ fun _ => rfl
    · obtain ⟨k, rfl⟩ : ∃ k, b = 0xcc + k := ⟨b - 0xcc, by omega⟩
      rw [item_uint maxD fuel d s k (by omega), Spec.Msgpack.spec_uint fuel k (by omega) s]
      exact number_agrees _ s _ _ fun _ => rfl
    · obtain ⟨k, rfl⟩ : ∃ k, b = 0xd0 + k := ⟨b - 0xd0, by omega⟩
      rw [item_sint maxD fuel d s k (by omega), Spec.Msgpack.spec_sint fuel k (by omega) s]
      exact number_agrees _ s _ _ (signed _)
    · obtain ⟨k, rfl⟩ : ∃ k, b = 0xd4 + k := ⟨b - 0xd4, by omega⟩
      rw [item_fixext maxD fuel d s k (by omega), Spec.Msgpack.spec_fixext fuel k (by omega) s]
      exact readExt_agrees _ s
    · obtain ⟨k, rfl⟩ : ∃ k, b = 0xd9 + k := ⟨b - 0xd9, by omega⟩
      rw [(item_sized maxD fuel d s k (by omega)).1, Spec.Msgpack.spec_str fuel k (by omega) s]
      exact afterLen_agrees _ s _ _ readStr_agrees
    · obtain ⟨k, rfl⟩ : ∃ k, b = 0xdc + k := ⟨b - 0xdc, by omega⟩
      rw [(item_container maxD fuel d s k (by omega)).1, Spec.Msgpack.spec_arr fuel k (by omega) s, Nat.pow_succ, Nat.mul_comm]
      exact deep _ _ (afterLen_agrees _ s _ _ fun _ _ => arrOf_agrees (hL _ _ _))
    · obtain ⟨k, rfl⟩ : ∃ k, b = 0xde + k := ⟨b - 0xde, by omega⟩
      rw [(item_container maxD fuel d s k (by omega)).2, Spec.Msgpack.spec_map fuel k (by omega) s, Nat.pow_succ, Nat.mul_comm]
      exact deep _ _ (afterLen_agrees _ s _ _ fun _ _ => mapOf_agrees (hM _ _ _))
    · rw [item_negfix maxD fuel d s b h.1 h.2, Spec.Msgpack.spec_negfix fuel b s h.1]; exact ⟨rfl, rfl⟩
    · rw [item, if_pos h]; exact agrees_lenient _ .skip rfl _

theorem agree_all (maxD : Nat) : ∀ fuel : Nat,
    (∀ d s, Agrees (toBV textKey false) (item maxD fuel d s) (Spec.Msgpack.item fuel s)) ∧
    (∀ d n s, Agrees (toBVList textKey false) (items maxD fuel d n s) (Spec.Msgpack.items fuel n s)) ∧
    (∀ d n s, Agrees (toBVMembers textKey false) (members maxD fuel d n s) (Spec.Msgpack.members fuel n s))
  | 0 => by
    refine ⟨?_, ?_, ?_⟩
    · intro d s; exact True.intro
    · intro d n s; cases n with
      | zero => exact ⟨rfl, rfl⟩
      | succ n => exact True.intro
    · intro d n s; cases n with
      | zero => exact ⟨rfl, rfl⟩
      | succ n => exact True.intro
  | fuel + 1 => by
    obtain ⟨hI, hL, hM⟩ := agree_all maxD fuel
    exact ⟨item_step maxD fuel hL hM, items_step maxD fuel hI hL, members_step maxD fuel hI hM⟩

theorem decode_agrees (maxD : Nat) (bs : Bytes) : Agrees (toBV textKey false) (decode maxD bs) (Spec.Msgpack.decode bs) :=
  (agree_all maxD (2 * bs.length + 2)).1 0 bs

end JV.Model.MsgpackParser
