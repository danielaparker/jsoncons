/-
  JV.Proofs.JsonPathSlice — jsoncons' slice arithmetic enumerates exactly the RFC 9535 slice, in the order of the step.
-/
import JV.Model.JsonPath
import JV.Spec.Rfc9535
namespace JV.Model.JsonPath
open Spec.Rfc9535

theorem upLoop_ge : ∀ (fuel : Nat) (i e step : Int), 0 < step → ∀ x ∈ upLoop fuel i e step, i ≤ x
  | 0, _, _, _, _, _, h => by simp [upLoop] at h
  | fuel + 1, i, e, step, hs, x, h => by
    simp only [upLoop] at h
    split at h
    · simp only [List.mem_cons] at h
      rcases h with rfl | h
      · exact Int.le_refl _
      · have := upLoop_ge fuel (i + step) e step hs x h; omega
    · simp at h

theorem upLoop_mem : ∀ (fuel : Nat) (i e step : Int), 0 < step → e - i ≤ fuel →
    ∀ x, x ∈ upLoop fuel i e step ↔ (i ≤ x ∧ x < e ∧ step ∣ (x - i))
  | 0, i, e, step, _, hf, x => by
    simp only [upLoop, List.not_mem_nil, false_iff]
    intro ⟨h1, h2, _⟩; omega
  | fuel + 1, i, e, step, hs, hf, x => by
    have hd : step ∣ x - (i + step) ↔ step ∣ x - i := by
      rw [show x - i = (x - (i + step)) + step by omega]
      exact (Int.dvd_add_left (Int.dvd_refl step)).symm
    simp only [upLoop]
    by_cases hlt : i < e
    · rw [if_pos hlt, List.mem_cons, upLoop_mem fuel (i + step) e step hs (by omega) x, hd]
      constructor
      · rintro (rfl | ⟨h1, h2, h3⟩)
        · exact ⟨Int.le_refl _, hlt, by simp⟩
        · exact ⟨by omega, h2, h3⟩
      · rintro ⟨h1, h2, h3⟩
        by_cases hx : x = i
        · exact Or.inl hx
        · have hle : step ≤ x - i := Int.le_of_dvd (by omega) h3
          exact Or.inr ⟨by omega, h2, h3⟩
    · simp only [if_neg hlt, List.not_mem_nil, false_iff]
      intro ⟨h1, h2, _⟩; omega

theorem upLoop_pairwise : ∀ (fuel : Nat) (i e step : Int), 0 < step → (upLoop fuel i e step).Pairwise (· < ·)
  | 0, _, _, _, _ => by simp [upLoop]
  | fuel + 1, i, e, step, hs => by
    simp only [upLoop]
    split
    · refine List.pairwise_cons.mpr ⟨?_, upLoop_pairwise fuel (i + step) e step hs⟩
      intro x hx
      have := upLoop_ge fuel (i + step) e step hs x hx; omega
    · exact List.Pairwise.nil

/-- The descending loop is the ascending loop run on the negated numbers: what it visits, and in which order, follows from
    the facts about `upLoop`. -/
theorem downLoop_eq_neg_upLoop : ∀ (fuel : Nat) (i e step : Int),
    downLoop fuel i e step = (upLoop fuel (-i) (-e) (-step)).map (- ·)
  | 0, _, _, _ => rfl
  | fuel + 1, i, e, step => by
    simp only [downLoop, upLoop, downLoop_eq_neg_upLoop fuel (i + step) e step, Int.neg_add, Int.neg_lt_neg_iff]
    split <;> simp

theorem mem_map_neg {l : List Int} {x : Int} : x ∈ l.map (- ·) ↔ -x ∈ l := by
  rw [List.mem_map]
  constructor
  · rintro ⟨y, hy, rfl⟩
    rwa [Int.neg_neg]
  · intro h
    exact ⟨-x, h, Int.neg_neg x⟩

theorem downLoop_mem (fuel : Nat) (i e step : Int) (hs : step < 0) (hf : i - e ≤ fuel) (x : Int) :
    x ∈ downLoop fuel i e step ↔ (e < x ∧ x ≤ i ∧ step ∣ (i - x)) := by
  rw [downLoop_eq_neg_upLoop, mem_map_neg, upLoop_mem fuel (-i) (-e) (-step) (by omega) (by omega), Int.neg_dvd,
    show -x - -i = i - x by omega]
  constructor <;> rintro ⟨h1, h2, h3⟩ <;> exact ⟨by omega, by omega, h3⟩

theorem downLoop_pairwise (fuel : Nat) (i e step : Int) (hs : step < 0) : (downLoop fuel i e step).Pairwise (· > ·) := by
  rw [downLoop_eq_neg_upLoop, List.pairwise_map]
  exact (upLoop_pairwise fuel (-i) (-e) (-step) (by omega)).imp (by intro a b h; omega)

/-! jsoncons clamps each loop bound on one side only (the other side is cut off by the loop test and, going down, by the
    filter `0 ≤ i < n`); RFC 9535 clamps on both. -/

theorem up_lower (s : Slice) (n : Nat) (h : 0 < s.step) :
    (bounds s.start s.stop s.step n).lower = (if getStart s n < 0 then 0 else getStart s n) := by
  have h' : s.step ≥ 0 := by omega
  unfold getStart bounds normalize clampHi clampLo
  rcases s.start with _ | a <;> simp only [h', if_true]
  · omega
  · generalize (if a ≥ 0 then a else ↑n + a) = x
    omega

theorem up_upper (s : Slice) (n : Nat) (h : 0 < s.step) :
    (bounds s.start s.stop s.step n).upper = max (if getStop s n > n then (n : Int) else getStop s n) 0 := by
  have h' : s.step ≥ 0 := by omega
  unfold getStop bounds normalize clampHi clampLo
  rcases s.stop with _ | a <;> simp only [h', if_true]
  · omega
  · generalize (if a ≥ 0 then a else ↑n + a) = x
    omega

theorem down_upper (s : Slice) (n : Nat) (h : s.step < 0) :
    (bounds s.start s.stop s.step n).upper = max (if getStart s n ≥ n then (n : Int) - 1 else getStart s n) (-1) := by
  have h' : ¬ s.step ≥ 0 := by omega
  unfold getStart bounds normalize clampHi clampLo
  rcases s.start with _ | a <;> simp only [h', if_false]
  · omega
  · generalize (if a ≥ 0 then a else ↑n + a) = x
    omega

theorem down_lower (s : Slice) (n : Nat) (h : s.step < 0) :
    (bounds s.start s.stop s.step n).lower = min (if getStop s n < -1 then -1 else getStop s n) ((n : Int) - 1) := by
  have h' : ¬ s.step ≥ 0 := by omega
  unfold getStop bounds normalize clampHi clampLo
  rcases s.stop with _ | a <;> simp only [h', if_false]
  · omega
  · generalize (if a ≥ 0 then a else ↑n + a) = x
    omega

theorem mem_map_toNat {l : List Int} (h0 : ∀ y ∈ l, 0 ≤ y) (x : Nat) : x ∈ l.map Int.toNat ↔ (x : Int) ∈ l := by
  rw [List.mem_map]
  constructor
  · rintro ⟨y, hy, rfl⟩
    rwa [Int.toNat_of_nonneg (h0 y hy)]
  · intro h
    exact ⟨x, h, Int.toNat_natCast x⟩

theorem sliceIdx_spec (s : Slice) (n : Nat) (x : Nat) :
    x ∈ sliceIdx s n ↔ Selected s.start s.stop s.step n (x : Int) := by
  unfold sliceIdx Selected
  by_cases hp : s.step > 0
  · have hn : ¬ s.step < 0 := by omega
    simp only [hp, if_true, hn, false_and, or_false, true_and, up_lower s n hp, up_upper s n hp]
    rw [mem_map_toNat, upLoop_mem _ _ _ _ hp (by omega)]
    · constructor <;> rintro ⟨h1, h2, h3⟩ <;> exact ⟨h1, by omega, h3⟩
    · intro y hy
      have := upLoop_ge _ _ _ _ hp y hy
      omega
  · by_cases hm : s.step < 0
    · simp only [hp, if_false, hm, if_true, false_and, false_or, true_and, down_upper s n hm, down_lower s n hm]
      generalize hS : (if getStart s n ≥ n then (n : Int) - 1 else getStart s n) = S
      have hSn : S ≤ (n : Int) - 1 := by omega
      rw [mem_map_toNat, List.mem_filter, downLoop_mem _ _ _ _ hm (by omega), decide_eq_true_eq]
      · constructor
        · rintro ⟨⟨h1, h2, h3⟩, _⟩
          rw [Int.max_eq_left (by omega)]
          exact ⟨by omega, h2, h3⟩
        · rintro ⟨h1, h2, h3⟩
          rw [Int.max_eq_left (by omega)] at h2 h3
          exact ⟨⟨by omega, h2, h3⟩, by omega, by omega⟩
      · intro y hy
        exact (of_decide_eq_true (List.mem_filter.mp hy).2).1
    · have h0 : s.step = 0 := by omega
      simp [h0]

theorem sliceIdx_lt (s : Slice) (n : Nat) : ∀ x ∈ sliceIdx s n, x < n := by
  intro x hx
  rw [sliceIdx_spec] at hx
  unfold Selected at hx
  rcases hx with ⟨hp, _, h2, _⟩ | ⟨hm, _, h2, _⟩
  · rw [up_upper s n hp] at h2
    omega
  · rw [down_upper s n hm] at h2
    omega

/-- ascending for a positive step, descending for a negative one (`sliceIdx_descending`): no index is visited twice either way -/
theorem sliceIdx_ascending (s : Slice) (n : Nat) (hp : s.step > 0) : (sliceIdx s n).Pairwise (· < ·) := by
  unfold sliceIdx
  simp only [hp, if_true]
  rw [List.pairwise_map]
  refine (upLoop_pairwise _ _ _ _ hp).imp_of_mem fun {a b} ha hb hab => ?_
  have := upLoop_ge _ _ _ _ hp a ha
  have := upLoop_ge _ _ _ _ hp b hb
  omega

theorem sliceIdx_descending (s : Slice) (n : Nat) (hm : s.step < 0) : (sliceIdx s n).Pairwise (· > ·) := by
  unfold sliceIdx
  have hp : ¬ s.step > 0 := by omega
  simp only [hp, if_false, hm, if_true]
  rw [List.pairwise_map, List.pairwise_filter]
  refine (downLoop_pairwise _ _ _ _ hm).imp fun {a b} hab ha hb => ?_
  simp only [decide_eq_true_eq] at ha hb
  omega

end JV.Model.JsonPath
