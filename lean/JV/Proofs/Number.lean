/-
  JV.Proofs.Number — `dec_to_integer` computes the decimal value exactly, or reports out-of-range;
  what `from_integer` writes, `dec_to_integer` reads back.
-/
import JV.Model.Number
namespace JV
namespace Model

/-- the value denoted by a digit string, most significant first (specification) -/
def decVal : Bytes → Nat
  | [] => 0
  | c :: cs => (c - 48) * 10 ^ cs.length + decVal cs

def AllDigits (s : Bytes) : Prop := ∀ c ∈ s, isDigit c = true

theorem isDigit_iff {c : Nat} : isDigit c = true ↔ 48 ≤ c ∧ c ≤ 57 := by
  simp [isDigit]

theorem decVal_append (a b : Bytes) : decVal (a ++ b) = decVal a * 10 ^ b.length + decVal b := by
  induction a with
  | nil => simp [decVal]
  | cons c cs ih =>
    simp only [List.cons_append, decVal, ih, List.length_append, Nat.pow_add]
    rw [Nat.add_mul, Nat.mul_assoc]
    omega

theorem decVal_snoc (a : Bytes) (d : Nat) : decVal (a ++ [d]) = decVal a * 10 + (d - 48) := by
  rw [decVal_append]; simp [decVal]

theorem allDigits_nil : AllDigits [] := fun _ h => nomatch h

theorem allDigits_cons {c : Nat} {cs : Bytes} : AllDigits (c :: cs) ↔ isDigit c = true ∧ AllDigits cs :=
  List.forall_mem_cons

theorem allDigits_append {a b : Bytes} : AllDigits (a ++ b) ↔ AllDigits a ∧ AllDigits b :=
  List.forall_mem_append

theorem allDigits_take {s : Bytes} (n : Nat) (h : AllDigits s) : AllDigits (s.take n) :=
  fun c hc => h c (List.mem_of_mem_take hc)

theorem allDigits_drop {s : Bytes} (n : Nat) (h : AllDigits s) : AllDigits (s.drop n) :=
  fun c hc => h c (List.mem_of_mem_drop hc)

theorem decVal_lt : ∀ (s : Bytes), AllDigits s → decVal s < 10 ^ s.length
  | [], _ => Nat.one_pos
  | c :: cs, h => by
    obtain ⟨hc, hcs⟩ := allDigits_cons.1 h
    have hc := isDigit_iff.1 hc
    have := decVal_lt cs hcs
    simp only [decVal, List.length_cons, Nat.pow_succ]
    have h9 : (c - 48) * 10 ^ cs.length ≤ 9 * 10 ^ cs.length := Nat.mul_le_mul_right _ (by omega)
    omega

theorem accDigits_ok : ∀ (s : Bytes) (num : Nat), AllDigits s → accDigits num s = .ok (num * 10 ^ s.length + decVal s)
  | [], num, _ => by simp [accDigits, decVal]
  | c :: cs, num, h => by
    obtain ⟨hc, hcs⟩ := allDigits_cons.1 h
    rw [accDigits, if_pos hc, accDigits_ok cs _ hcs]
    simp only [decVal, List.length_cons, Nat.pow_succ]
    congr 1
    rw [Nat.add_mul, Nat.mul_assoc, Nat.mul_comm 10]
    omega

theorem accDigits_bad : ∀ (s : Bytes) (num : Nat), ¬ AllDigits s → accDigits num s = .error .invalid
  | [], _, h => absurd allDigits_nil h
  | c :: cs, num, h => by
    rw [accDigits]
    split
    · next hc => exact accDigits_bad cs _ (fun hcs => h (allDigits_cons.2 ⟨hc, hcs⟩))
    · rfl

/-- the two overflow tests on the twentieth digit together say whether the value fits -/
theorem lastDigit_fits (num d : Nat) (hd : d ≤ 9) :
    (if num > (2 ^ 64 - 1) / 10 then Except.error NumErr.range
      else if num * 10 > 2 ^ 64 - 1 - d then .error .range else .ok (num * 10 + d)) =
    if num * 10 + d ≤ 2 ^ 64 - 1 then .ok (num * 10 + d) else .error .range := by
  by_cases h : num * 10 + d ≤ 2 ^ 64 - 1
  · rw [if_pos h, if_neg (by omega), if_neg (by omega)]
  · rw [if_neg h]
    split
    · rfl
    · rw [if_pos (by omega)]

theorem decToU64_eq (s : Bytes) (hne : s ≠ []) (hd : AllDigits (s.take 19)) :
    decToU64 s = match s.drop 19 with
      | [] => .ok (decVal s)
      | [c] => if isDigit c then (if decVal s ≤ 2 ^ 64 - 1 then .ok (decVal s) else .error .range) else .error .invalid
      | _ => .error .range := by
  have hdrop : s.drop (min 19 s.length) = s.drop 19 := by simp
  unfold decToU64
  rw [if_neg (mt List.length_eq_zero_iff.1 hne)]
  simp only [← List.take_eq_take_min, hdrop]
  rw [accDigits_ok _ 0 hd, Nat.zero_mul, Nat.zero_add]
  have hs := List.take_append_drop 19 s
  match hdr : s.drop 19 with
  | [] =>
    rw [hdr, List.append_nil] at hs
    rw [hs]
  | [c] =>
    have e : decVal s = decVal (s.take 19) * 10 + (c - 48) := by rw [← decVal_snoc, ← hdr, hs]
    simp only [e]
    split
    · next hc => exact lastDigit_fits _ _ (by have := isDigit_iff.1 hc; omega)
    · rfl
  | _ :: _ :: _ => rfl

theorem decToU64_digits (s : Bytes) (hne : s ≠ []) (hd : AllDigits s) (hlen : s.length ≤ 20) :
    decToU64 s = if decVal s ≤ 2 ^ 64 - 1 then .ok (decVal s) else .error .range := by
  rw [decToU64_eq s hne (allDigits_take 19 hd)]
  have hl : (s.drop 19).length ≤ 1 := by rw [List.length_drop]; omega
  match hdr : s.drop 19, hl with
  | [], _ =>
    have h1 := decVal_lt s hd
    have h2 : (10:Nat) ^ s.length ≤ 10 ^ 19 := Nat.pow_le_pow_right (by omega) (by simpa using hdr)
    rw [if_pos (by omega)]
  | [c], _ => exact if_pos (hd c (List.mem_of_mem_drop (by rw [hdr]; simp)))

theorem decToU64_long (s : Bytes) (hd : AllDigits s) (hlen : s.length > 20) : decToU64 s = .error .range := by
  rw [decToU64_eq s (by intro h; rw [h] at hlen; simp at hlen) (allDigits_take 19 hd)]
  have hl : (s.drop 19).length ≥ 2 := by rw [List.length_drop]; omega
  match s.drop 19, hl with
  | _ :: _ :: _, _ => rfl

theorem decToU64_empty : decToU64 [] = .error .invalid := rfl

theorem decToU64_ok_allDigits (s : Bytes) (n : Nat) (h : decToU64 s = .ok n) : AllDigits s ∧ s ≠ [] ∧ s.length ≤ 20 := by
  have hne : s ≠ [] := by
    intro e; subst e; simp [decToU64] at h
  have hs := List.take_append_drop 19 s
  by_cases hdt : AllDigits (s.take 19)
  · rw [decToU64_eq s hne hdt] at h
    have hl := List.length_drop (i := 19) (l := s)
    match hdr : s.drop 19 with
    | [] =>
      rw [hdr] at hl hs
      rw [List.append_nil] at hs
      exact ⟨hs ▸ hdt, hne, by simp at hl; omega⟩
    | [c] =>
      rw [hdr] at h hl hs
      simp only [] at h
      by_cases hc : isDigit c = true
      · exact ⟨hs ▸ allDigits_append.2 ⟨hdt, allDigits_cons.2 ⟨hc, allDigits_nil⟩⟩, hne, by simp at hl; omega⟩
      · rw [if_neg hc] at h; exact nomatch h
    | _ :: _ :: _ => rw [hdr] at h; exact nomatch h
  · unfold decToU64 at h
    rw [if_neg (mt List.length_eq_zero_iff.1 hne)] at h
    simp only [← List.take_eq_take_min, accDigits_bad _ 0 hdt] at h
    exact nomatch h

theorem revDigits_length : ∀ (fuel k n : Nat), n < 10 ^ (k + 1) → (revDigits fuel n).length ≤ k + 1
  | 0, _, _, _ => Nat.zero_le _
  | fuel + 1, k, n, hn => by
    rw [revDigits]
    split
    · exact Nat.succ_le_succ (Nat.zero_le k)
    · next hz =>
      cases k with
      | zero => omega
      | succ k => exact Nat.succ_le_succ (revDigits_length fuel k (n / 10) (by rw [Nat.pow_succ] at hn; omega))

theorem revDigits_spec : ∀ (fuel n : Nat), n < 10 ^ fuel → 0 < fuel →
    decVal (revDigits fuel n).reverse = n ∧ AllDigits (revDigits fuel n).reverse ∧
    (revDigits fuel n) ≠ [] ∧ (revDigits fuel n).length ≤ fuel ∧
    ((revDigits fuel n).reverse.head? = some 48 → n = 0)
  | 0, _, _, h => absurd h (by omega)
  | fuel + 1, n, hn, _ => by
    have hlen := revDigits_length (fuel + 1) fuel n hn
    have hr : n % 10 < 10 := Nat.mod_lt n (by decide)
    have hdig : AllDigits [48 + n % 10] := allDigits_cons.2 ⟨isDigit_iff.2 (by omega), allDigits_nil⟩
    by_cases hz : n / 10 = 0
    · rw [revDigits, if_pos hz] at hlen ⊢
      refine ⟨?_, hdig, List.cons_ne_nil _ _, hlen, fun h => ?_⟩
      · show (48 + n % 10 - 48) * 10 ^ 0 + 0 = n
        omega
      · have := Option.some.inj h
        omega
    · rw [Nat.pow_succ] at hn
      have hfuel : 0 < fuel := Nat.pos_of_ne_zero (fun h0 => by subst h0; omega)
      obtain ⟨h1, h2, h3, _, h5⟩ := revDigits_spec fuel (n / 10) (by omega) hfuel
      rw [revDigits, if_neg hz] at hlen ⊢
      rw [List.reverse_cons]
      refine ⟨?_, allDigits_append.2 ⟨h2, hdig⟩, List.cons_ne_nil _ _, hlen, ?_⟩
      · rw [decVal_snoc, h1]; omega
      · cases hl : (revDigits fuel (n / 10)).reverse with
        | nil => exact absurd hl (by simpa using h3)
        | cons c cs =>
          rw [hl] at h5
          exact fun h => absurd (h5 h) hz

theorem fromUnsigned_digits (n : Nat) (hn : n < 2 ^ 64) :
    AllDigits (fromUnsigned n) ∧ fromUnsigned n ≠ [] ∧ decVal (fromUnsigned n) = n ∧ ((fromUnsigned n).head? = some 48 → n = 0) := by
  obtain ⟨h1, h2, h3, _, h5⟩ := revDigits_spec 255 n (Nat.lt_of_lt_of_le hn (by decide)) (by omega)
  exact ⟨h2, by unfold fromUnsigned; simpa using h3, h1, h5⟩

theorem fromUnsigned_roundtrip (n : Nat) (hn : n < 2 ^ 64) : decToU64 (fromUnsigned n) = .ok n := by
  obtain ⟨hd, hne, hv, _⟩ := fromUnsigned_digits n hn
  have hlen : (fromUnsigned n).length ≤ 20 := by
    unfold fromUnsigned
    rw [List.length_reverse]
    exact revDigits_length 255 19 n (Nat.lt_of_lt_of_le hn (by decide))
  rw [decToU64_digits _ hne hd hlen, hv, if_pos (by omega)]

/-- the negative branch never negates: it prints the digits of `-v` -/
theorem revDigitsNeg_eq : ∀ (fuel : Nat) (m : Nat), 0 < m → revDigitsNeg fuel (-(m : Int)) = revDigits fuel m
  | 0, _, _ => rfl
  | fuel + 1, m, hm => by
    have h1 : Int.tmod (-(m : Int)) 10 = -((m % 10 : Nat) : Int) := by
      rw [Int.neg_tmod]; simp [Int.tmod]
    have h2 : Int.tdiv (-(m : Int)) 10 = -((m / 10 : Nat) : Int) := by
      rw [Int.neg_tdiv]; simp [Int.tdiv]
    simp only [revDigitsNeg, revDigits, h1, h2]
    have : (48 - -((m % 10 : Nat) : Int)).toNat = 48 + m % 10 := by omega
    rw [this]
    by_cases hz : m / 10 = 0
    · simp [hz]
    · have : ¬ (-((m / 10 : Nat) : Int) = 0) := by omega
      simp only [this, hz, if_false]
      rw [revDigitsNeg_eq fuel (m / 10) (by omega)]

theorem fromInteger_roundtrip (v : Int) (hlo : -(2 ^ 63 : Int) ≤ v) (hhi : v < 2 ^ 63) : decToI64 (fromInteger v) = .ok v := by
  unfold fromInteger
  by_cases hneg : v < 0
  · simp only [hneg, if_true]
    obtain ⟨m, hm⟩ : ∃ m : Nat, v = -(m : Int) := ⟨(-v).toNat, by omega⟩
    subst hm
    have hmpos : 0 < m := by omega
    have hm64 : m < 2 ^ 64 := by omega
    rw [revDigitsNeg_eq 255 m hmpos]
    have hrt := fromUnsigned_roundtrip m hm64
    unfold fromUnsigned at hrt
    unfold decToI64
    simp only [List.length_cons, Nat.succ_ne_zero, if_false, List.head?_cons, if_true, List.drop_one, List.tail_cons, hrt]
    have : ¬ (m > 2 ^ 63) := by omega
    simp [this]
  · simp only [hneg, if_false]
    obtain ⟨m, hm⟩ : ∃ m : Nat, v = (m : Int) := ⟨v.toNat, by omega⟩
    subst hm
    have hm64 : m < 2 ^ 64 := by omega
    have hrt := fromUnsigned_roundtrip m hm64
    obtain ⟨hall, hne, _, _⟩ := fromUnsigned_digits m hm64
    unfold fromUnsigned at hrt hall hne
    simp only [Int.toNat_natCast]
    unfold decToI64
    have hlen : (revDigits 255 m).reverse.length ≠ 0 := by
      intro h; exact hne (List.length_eq_zero_iff.1 h)
    have hhead : ¬ ((revDigits 255 m).reverse.head? = some 45) := by
      intro h
      cases hl : (revDigits 255 m).reverse with
      | nil => exact hne hl
      | cons c cs =>
        rw [hl] at h; simp at h; subst h
        have := isDigit_iff.1 (hall 45 (by rw [hl]; simp))
        omega
    simp only [hlen, if_false, hhead, hrt]
    have : ¬ (m > 2 ^ 63 - 1) := by omega
    simp [this]

end Model
end JV
