/-
  JV.Proofs.JValLemmas — `beq` is equality (and gives `DecidableEq JVal`); lookups return smaller,
  well-formed values; the unique-keys invariant `UK`.
-/
import JV.Proofs.Assoc
namespace JV
open Assoc

mutual
  theorem JVal.beq_refl : ∀ a : JVal, JVal.beq a a = true
    | .null => rfl
    | .bool b => by simp [JVal.beq]
    | .int i => by simp [JVal.beq]
    | .str s => by simp [JVal.beq]
    | .arr xs => by simp [JVal.beq, beqList_refl xs]
    | .obj ms => by simp [JVal.beq, beqMembers_refl ms]
  theorem beqList_refl : ∀ xs : List JVal, JVal.beqList xs xs = true
    | [] => rfl
    | x :: xs => by simp [JVal.beqList, JVal.beq_refl x, beqList_refl xs]
  theorem beqMembers_refl : ∀ ms : List (Bytes × JVal), JVal.beqMembers ms ms = true
    | [] => rfl
    | (k, x) :: ms => by simp [JVal.beqMembers, JVal.beq_refl x, beqMembers_refl ms]
end

mutual
  theorem JVal.eq_of_beq : ∀ a b : JVal, JVal.beq a b = true → a = b
    | .null, b, h | .bool _, b, h | .int _, b, h | .str _, b, h => by cases b <;> simp_all [JVal.beq]
    | .arr xs, b, h => by
      cases b <;> simp_all [JVal.beq]
      exact eq_of_beqList _ _ h
    | .obj ms, b, h => by
      cases b <;> simp_all [JVal.beq]
      exact eq_of_beqMembers _ _ h
  theorem eq_of_beqList : ∀ xs ys : List JVal, JVal.beqList xs ys = true → xs = ys
    | [], [], _ => rfl
    | [], _ :: _, h => by simp [JVal.beqList] at h
    | _ :: _, [], h => by simp [JVal.beqList] at h
    | x :: xs, y :: ys, h => by
      simp only [JVal.beqList, Bool.and_eq_true] at h
      rw [JVal.eq_of_beq x y h.1, eq_of_beqList xs ys h.2]
  theorem eq_of_beqMembers : ∀ xs ys : List (Bytes × JVal), JVal.beqMembers xs ys = true → xs = ys
    | [], [], _ => rfl
    | [], _ :: _, h => by simp [JVal.beqMembers] at h
    | _ :: _, [], h => by simp [JVal.beqMembers] at h
    | (k, x) :: xs, (l, y) :: ys, h => by
      simp only [JVal.beqMembers, Bool.and_eq_true, beq_iff_eq] at h
      rw [h.1.1, JVal.eq_of_beq x y h.1.2, eq_of_beqMembers xs ys h.2]
end

theorem JVal.bne_iff (a b : JVal) : (a != b) = true ↔ a ≠ b := by
  show (!(JVal.beq a b)) = true ↔ a ≠ b
  rw [Bool.not_eq_true', ← Bool.not_eq_true]
  exact not_congr ⟨JVal.eq_of_beq a b, fun e => e ▸ JVal.beq_refl a⟩

theorem wfList_iff : ∀ {xs : List JVal}, WFList xs ↔ ∀ x ∈ xs, x.WF
  | [] => by simp [WFList]
  | x :: xs => by simp [WFList, wfList_iff (xs := xs)]

theorem wfMembers_iff : ∀ {ms : List (Bytes × JVal)}, WFMembers ms ↔ ∀ p ∈ ms, p.2.WF
  | [] => by simp [WFMembers]
  | (_, _) :: ms => by simp [WFMembers, wfMembers_iff (ms := ms)]

theorem size_of_mem {x : JVal} : ∀ {xs : List JVal}, x ∈ xs → x.size ≤ sizeList xs
  | y :: ys, h => by
    simp only [sizeList]
    rcases List.mem_cons.1 h with rfl | h
    · omega
    · have := size_of_mem h; omega

theorem size_of_mem_members {p : Bytes × JVal} : ∀ {ms : List (Bytes × JVal)}, p ∈ ms → p.2.size ≤ sizeMembers ms
  | (_, _) :: ms, h => by
    simp only [sizeMembers]
    rcases List.mem_cons.1 h with rfl | h
    · exact Nat.le_add_right _ _
    · have := size_of_mem_members h; omega

theorem size_of_find {k : Bytes} {x : JVal} {ms : List (Bytes × JVal)} (h : find k ms = some x) : x.size ≤ sizeMembers ms :=
  size_of_mem_members (mem_of_find h)

theorem wf_of_find {k : Bytes} {x : JVal} {ms : List (Bytes × JVal)} (hw : WFMembers ms) (h : find k ms = some x) : x.WF :=
  wfMembers_iff.1 hw _ (mem_of_find h)

theorem wfMembers_erase {k : Bytes} {ms : List (Bytes × JVal)} (hw : WFMembers ms) : WFMembers (erase k ms) :=
  wfMembers_iff.2 fun p hp => wfMembers_iff.1 hw p (mem_erase hp)

theorem wfMembers_insertSorted {k : Bytes} {v : JVal} (hv : v.WF) {ms : List (Bytes × JVal)} (hw : WFMembers ms) :
    WFMembers (insertSorted k v ms) :=
  wfMembers_iff.2 fun p hp => (mem_insertSorted.1 hp).elim (· ▸ hv) (wfMembers_iff.1 hw p)

theorem nonull_of_find {k : Bytes} {x : JVal} : ∀ {ms : List (Bytes × JVal)}, NoNullMems ms → find k ms = some x →
    x.isNull = false ∧ x.NoNullMembers
  | [], _, h => by simp [find] at h
  | (k', v) :: ms, hw, h => by
    rcases find_cons_eq_some.1 h with ⟨_, rfl⟩ | ⟨_, h⟩
    · exact ⟨hw.1, hw.2.1⟩
    · exact nonull_of_find hw.2.2 h

end JV

namespace JV
instance : DecidableEq JVal := fun a b =>
  if h : JVal.beq a b = true then isTrue (JVal.eq_of_beq a b h)
  else isFalse (fun e => h (e ▸ JVal.beq_refl a))
end JV

namespace JV.Model.JsonPath
open Assoc

/-! ### unique keys (the `basic_json` object invariant for both `json` and `ojson`) -/
mutual
  def UK : JVal → Prop
    | .arr xs => UKList xs
    | .obj ms => (keys ms).Nodup ∧ UKMembers ms
    | _ => True
  def UKList : List JVal → Prop
    | [] => True
    | x :: xs => UK x ∧ UKList xs
  def UKMembers : List (Bytes × JVal) → Prop
    | [] => True
    | (_, x) :: ms => UK x ∧ UKMembers ms
end

theorem ukList_iff : ∀ {xs : List JVal}, UKList xs ↔ ∀ x ∈ xs, UK x
  | [] => by simp [UKList]
  | x :: xs => by simp [UKList, ukList_iff (xs := xs)]

theorem ukMembers_iff : ∀ {ms : List (Bytes × JVal)}, UKMembers ms ↔ ∀ p ∈ ms, UK p.2
  | [] => by simp [UKMembers]
  | (_, _) :: ms => by simp [UKMembers, ukMembers_iff (ms := ms)]

end JV.Model.JsonPath
