/-
  JV.Proofs.JsonPathReplace — `json_replace` assigns the new value to the selected nodes and changes nothing else: here as facts about
  one assignment (`setAt`) and a sequence of them (`assignAll`); Props.C12 shows `replaceAll` is such a sequence (`replaceAll_eq`).
-/
import JV.Proofs.JsonPath
import JV.Proofs.JsonPathOpts
namespace JV
namespace Model
namespace JsonPath
open Assoc

/-- the paths differ at a position both have: neither is a prefix of the other -/
def Diverge : Path → Path → Prop
  | a :: p, b :: q => a ≠ b ∨ Diverge p q
  | _, _ => False

/-- the first path is an initial segment of the second -/
def IsPrefix : Path → Path → Prop
  | [], _ => True
  | _ :: _, [] => False
  | a :: p, b :: q => a = b ∧ IsPrefix p q

theorem find_map_assign (k k' : Bytes) (c : JVal) : ∀ (ms : List (Bytes × JVal)),
    find k' (ms.map fun m => if m.1 = k then (m.1, c) else m) = if k = k' then (find k' ms).map fun _ => c else find k' ms
  | [] => by simp [find]
  | (k0, v0) :: ms => by
    simp only [List.map_cons, find, find_map_assign k k' c ms]
    by_cases e : k0 = k
    · subst e; by_cases e' : k0 = k' <;> simp [e']
    · by_cases e' : k0 = k'
      · subst e'; simp [e, Ne.symm e]
      · simp [e, e']

theorem child_setChild (d c : JVal) (a b : Step) :
    child (setChild d a c) b = if a = b then (child d b).map fun _ => c else child d b := by
  cases d <;> cases a <;> cases b <;> simp only [setChild, child, Option.map_none, ite_self, reduceCtorEq, if_false]
  case obj.name.name ms k k' => simpa using find_map_assign k k' c ms
  case arr.idx.idx xs i j => by_cases e : i = j <;> by_cases hj : j < xs.length <;> simp [e, hj]

theorem child_setChild_ne {d c : JVal} {a b : Step} (hne : a ≠ b) : child (setChild d a c) b = child d b := by
  rw [child_setChild, if_neg hne]

theorem child_setChild_self {d c x : JVal} {a : Step} (h : child d a = some x) : child (setChild d a c) a = some c := by
  rw [child_setChild, if_pos rfl, h]; rfl

theorem resolve_setAt_diverge (nv : JVal) : ∀ (p q : Path) (d : JVal), Diverge p q → resolve (setAt d p nv) q = resolve d q
  | [], _, _, h => by simp [Diverge] at h
  | _ :: _, [], _, h => by simp [Diverge] at h
  | a :: p, b :: q, d, h => by
    simp only [setAt]
    cases hc : child d a with
    | none => rfl
    | some c =>
      simp only [resolve]
      by_cases e : a = b
      · subst e
        rw [child_setChild_self hc, hc]
        rcases h with h | h
        · exact absurd rfl h
        · exact resolve_setAt_diverge nv p q c h
      · rw [child_setChild_ne e]

theorem resolve_setAt_self (nv : JVal) : ∀ (p : Path) (d x : JVal), resolve d p = some x → resolve (setAt d p nv) p = some nv
  | [], _, _, _ => rfl
  | a :: p, d, x, h => by
    simp only [resolve] at h
    cases hc : child d a with
    | none => simp [hc] at h
    | some c =>
      simp only [hc] at h
      simp only [setAt, hc, resolve, child_setChild_self hc]
      exact resolve_setAt_self nv p c x h

theorem resolves_after_setAt (nv : JVal) : ∀ (q p : Path) (d x : JVal), resolve d p = some x → ¬ IsPrefix q p →
    ∃ y, resolve (setAt d q nv) p = some y
  | [], _, _, _, _, hn => absurd trivial hn
  | b :: q, [], d, x, _, _ => ⟨_, rfl⟩
  | b :: q, a :: p, d, x, h, hn => by
    simp only [setAt]
    cases hcb : child d b with
    | none => exact ⟨x, h⟩
    | some cb =>
      simp only [resolve] at h ⊢
      by_cases e : b = a
      · subst e
        rw [child_setChild_self hcb]
        rw [hcb] at h
        exact resolves_after_setAt nv q p cb x h (fun hp => hn ⟨rfl, hp⟩)
      · rw [child_setChild_ne e]
        exact ⟨x, h⟩

def assignAll (nv : JVal) (d : JVal) (ps : List Path) : JVal := ps.foldl (fun d p => setAt d p nv) d

theorem assignAll_diverge (nv : JVal) (q : Path) : ∀ (ps : List Path) (d : JVal), (∀ p ∈ ps, Diverge p q) →
    resolve (assignAll nv d ps) q = resolve d q
  | [], _, _ => rfl
  | p :: ps, d, h => by
    simp only [assignAll, List.foldl_cons]
    have := assignAll_diverge nv q ps (setAt d p nv) (fun p' hp' => h p' (List.mem_cons_of_mem _ hp'))
    simp only [assignAll] at this
    rw [this]
    exact resolve_setAt_diverge nv p q d (h p (by simp))

theorem assignAll_resolves (nv : JVal) (p : Path) : ∀ (ps : List Path) (d x : JVal), resolve d p = some x →
    (∀ q ∈ ps, ¬ IsPrefix q p) → ∃ y, resolve (assignAll nv d ps) p = some y
  | [], _, x, h, _ => ⟨x, h⟩
  | q :: ps, d, x, h, hn => by
    simp only [assignAll, List.foldl_cons]
    obtain ⟨y, hy⟩ := resolves_after_setAt nv q p d x h (hn q (by simp))
    exact assignAll_resolves nv p ps _ y hy (fun q' hq' => hn q' (List.mem_cons_of_mem _ hq'))

theorem assignAll_hits (nv : JVal) (p : Path) (pre post : List Path) (d x : JVal) (h : resolve d p = some x)
    (hpre : ∀ q ∈ pre, ¬ IsPrefix q p) (hpost : ∀ q ∈ post, Diverge q p) :
    resolve (assignAll nv d (pre ++ p :: post)) p = some nv := by
  simp only [assignAll, List.foldl_append, List.foldl_cons]
  obtain ⟨y, hy⟩ := assignAll_resolves nv p pre d x h hpre
  simp only [assignAll] at hy
  have h1 := resolve_setAt_self nv p _ y hy
  have h2 := assignAll_diverge nv p post (setAt (List.foldl (fun d p => setAt d p nv) d pre) p nv) hpost
  simp only [assignAll] at h2
  rw [h2, h1]

/-! ### order facts: in a strictly descending list, what comes after `p` is an ancestor of `p` or diverges from it -/

theorem not_prefix_of_lt : ∀ {p q : Path}, pathLt p q = true → ¬ IsPrefix q p
  | [], [], h => by simp [pathLt] at h
  | [], _ :: _, _ => by simp [IsPrefix]
  | _ :: _, [], h => by simp [pathLt] at h
  | a :: p, b :: q, h => by
    intro ⟨e, hp⟩
    subst e
    simp only [pathLt, stepLt_irrefl, Bool.false_eq_true, if_false] at h
    exact not_prefix_of_lt h hp

theorem diverge_or_prefix_of_lt : ∀ {q p : Path}, pathLt q p = true → IsPrefix q p ∨ Diverge q p
  | [], _, _ => Or.inl trivial
  | _ :: _, [], h => by simp [pathLt] at h
  | b :: q, a :: p, h => by
    by_cases e : b = a
    · subst e
      simp only [pathLt, stepLt_irrefl, Bool.false_eq_true, if_false] at h
      rcases diverge_or_prefix_of_lt h with h' | h'
      · exact Or.inl ⟨rfl, h'⟩
      · exact Or.inr (Or.inr h')
    · exact Or.inr (Or.inl e)

theorem isPrefix_refl : ∀ p : Path, IsPrefix p p
  | [] => trivial
  | _ :: p => ⟨rfl, isPrefix_refl p⟩

end JsonPath
end Model
end JV
