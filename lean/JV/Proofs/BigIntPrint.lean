/-
  JV.Proofs.BigIntPrint — `write_string`: the digit loop over 10^19 chunks, and print-then-parse.
-/
import JV.Proofs.BigIntRadix
namespace JV
namespace Model
namespace BigInt

/-- value of a string of ASCII decimal digits, least significant first (the order `write_string` produces them in) -/
def leDec : List Nat → Nat
  | [] => 0
  | c :: cs => (c - 48) + 10 * leDec cs

theorem leDec_append (a b : List Nat) : leDec (a ++ b) = leDec a + 10 ^ a.length * leDec b := by
  induction a with
  | nil => simp [leDec]
  | cons c cs ih =>
    simp only [List.cons_append, leDec, ih, List.length_cons, Nat.pow_succ]
    have : 10 * (10 ^ cs.length * leDec b) = 10 ^ cs.length * 10 * leDec b := by
      rw [← Nat.mul_assoc, Nat.mul_comm 10]
    rw [Nat.mul_add, this]
    omega

theorem decVal_reverse : ∀ (l : List Nat), decVal l.reverse = leDec l
  | [] => rfl
  | c :: cs => by
    rw [List.reverse_cons, decVal_append, decVal_reverse cs]
    simp [decVal, leDec]; omega

theorem allDigits_reverse {l : List Nat} (h : AllDigits l) : AllDigits l.reverse :=
  fun c hc => h c (List.mem_reverse.1 hc)

theorem chunkDigits_spec : ∀ (j r : Nat) (more : Bool), r < 10 ^ j →
    leDec (chunkDigits j r more) = r ∧ AllDigits (chunkDigits j r more) ∧ (more = true → (chunkDigits j r more).length = j)
  | 0, r, more, h => by
    simp at h
    exact ⟨by simp [chunkDigits, leDec, h], fun _ hc => by simp [chunkDigits] at hc, fun _ => rfl⟩
  | j + 1, r, more, h => by
    have hdig : isDigit (r % 10 + 48) = true := isDigit_iff.2 (by omega)
    have hr' : r / 10 < 10 ^ j := by rw [Nat.pow_succ] at h; omega
    obtain ⟨i1, i2, i3⟩ := chunkDigits_spec j (r / 10) more hr'
    unfold chunkDigits
    simp only []
    by_cases hs : r / 10 = 0 ∧ (!more) = true
    · rw [if_pos hs]
      refine ⟨by simp [leDec]; omega, allDigits_cons.2 ⟨hdig, allDigits_nil⟩, ?_⟩
      intro hm; rw [hm] at hs; simp at hs
    · rw [if_neg hs]
      exact ⟨by simp only [leDec, i1]; omega, allDigits_cons.2 ⟨hdig, i2⟩, fun hm => by simp [i3 hm]⟩

theorem chunkDigits_ne_nil (j r : Nat) (more : Bool) : chunkDigits (j + 1) r more ≠ [] := by
  unfold chunkDigits
  simp only []
  split <;> simp

/-- what `toDecimal` needs from the division by 10^19 it is given -/
def Div19Exact (P : List Nat → Prop) (div19 : List Nat → List Nat × Nat) : Prop :=
  ∀ v, P v → Words v → val v = val (div19 v).1 * 10 ^ 19 + (div19 v).2 ∧ (div19 v).2 < 10 ^ 19 ∧ Words (div19 v).1 ∧
    ((div19 v).1 = [] ↔ val (div19 v).1 = 0) ∧ P (div19 v).1

theorem toDecimalLoop_spec (P : List Nat → Prop) (div19 : List Nat → List Nat × Nat) (hdiv : Div19Exact P div19) :
    ∀ (fuel : Nat) (v : List Nat), P v → Words v → val v < (10 ^ 19) ^ fuel →
    leDec (toDecimalLoop div19 fuel v) = val v ∧ AllDigits (toDecimalLoop div19 fuel v)
  | 0, v, _, _, h => by
    simp at h
    exact ⟨by simp [toDecimalLoop, leDec, h], fun _ hc => by simp [toDecimalLoop] at hc⟩
  | fuel + 1, v, hP, hw, h => by
    obtain ⟨d1, d2, d3, d4, d5⟩ := hdiv v hP hw
    obtain ⟨c1, c2, c3⟩ := chunkDigits_spec 19 (div19 v).2 (decide ((div19 v).1 ≠ [])) d2
    unfold toDecimalLoop
    simp only []
    by_cases hq : (div19 v).1 = []
    · rw [if_pos hq]
      refine ⟨?_, c2⟩
      rw [c1, d1, d4.1 hq]; omega
    · rw [if_neg hq]
      have hqv : val (div19 v).1 < (10 ^ 19) ^ fuel := by
        rw [Nat.pow_succ] at h
        have : val (div19 v).1 * 10 ^ 19 < (10 ^ 19) ^ fuel * 10 ^ 19 := by omega
        exact Nat.lt_of_mul_lt_mul_right this
      obtain ⟨i1, i2⟩ := toDecimalLoop_spec P div19 hdiv fuel (div19 v).1 d5 d3 hqv
      refine ⟨?_, allDigits_append.2 ⟨c2, i2⟩⟩
      rw [leDec_append, c1, i1, c3 (by simp [hq]), d1]
      rw [Nat.mul_comm]; omega

theorem toDecimalLoop_ne_nil (div19 : List Nat → List Nat × Nat) (fuel : Nat) (v : List Nat) :
    toDecimalLoop div19 (fuel + 1) v ≠ [] := by
  unfold toDecimalLoop
  simp only []
  have := chunkDigits_ne_nil 18 (div19 v).2 (decide ((div19 v).1 ≠ []))
  split
  · exact this
  · intro h; exact this (List.append_eq_nil_iff.1 h).1

theorem ofDecimal_digits (s : List Nat) (hd : AllDigits s) : ofDecimal s = (if s = [] then none else ofDecimalDigits false s) := by
  unfold ofDecimal
  split
  · simp
  · rename_i cs
    have := isDigit_iff.1 (hd 45 (by simp)); omega
  · rename_i h1 h2
    by_cases hs : s = []
    · exact absurd hs h1
    · rw [if_neg hs]

theorem ofDecimal_minus (s : List Nat) : ofDecimal (45 :: s) = ofDecimalDigits true s := by
  unfold ofDecimal; rfl

theorem fuel19 (n : Nat) : B ^ n ≤ (10 ^ 19) ^ (2 * n + 1) := by
  have h1 : B ≤ (10 ^ 19) ^ 2 := by decide
  have h2 : B ^ n ≤ ((10 ^ 19) ^ 2) ^ n := Nat.pow_le_pow_left h1 n
  rw [← Nat.pow_mul] at h2
  exact Nat.le_trans h2 (Nat.pow_le_pow_right (by decide) (by omega))

/-- printing then parsing gives the same integer back, provided the division by 10^19 that `write_string`
    calls is exact -/
theorem print_parse (P : List Nat → Prop) (div19 : List Nat → List Nat × Nat) (hdiv : Div19Exact P div19) (a : Big)
    (hP : P a.mag) (hw : Words a.mag) :
    ∃ b, ofDecimal (toDecimal div19 a) = some b ∧ toInt b = toInt a := by
  unfold toDecimal
  by_cases hz : a.mag = []
  · rw [if_pos hz]
    refine ⟨ofWord 0, by decide, ?_⟩
    unfold toInt; rw [hz]; cases a.neg <;> simp [ofWord, val]
  · rw [if_neg hz]
    simp only []
    have hlt : val a.mag < (10 ^ 19) ^ (2 * a.mag.length + 1) := Nat.lt_of_lt_of_le (val_lt hw) (fuel19 _)
    obtain ⟨l1, l2⟩ := toDecimalLoop_spec P div19 hdiv _ a.mag hP hw hlt
    have l3 := toDecimalLoop_ne_nil div19 (2 * a.mag.length) a.mag
    generalize toDecimalLoop div19 (2 * a.mag.length + 1) a.mag = ds at *
    have hne : ds.reverse ≠ [] := by simpa using l3
    cases hn : a.neg with
    | true =>
      simp only [if_true, List.reverse_append, List.reverse_cons, List.reverse_nil, List.nil_append, List.cons_append]
      rw [ofDecimal_minus]
      obtain ⟨b, b1, b2, _, _, b5⟩ := ofDecimalDigits_ok true ds.reverse hne (allDigits_reverse l2)
      refine ⟨b, b1, ?_⟩
      rw [decVal_reverse, l1] at b2 b5
      unfold toInt
      rw [hn, b2]
      rcases b5 with h | h
      · rw [h]
      · rw [h]; simp
    | false =>
      simp only [Bool.false_eq_true, if_false]
      rw [ofDecimal_digits _ (allDigits_reverse l2), if_neg hne]
      obtain ⟨b, b1, b2, _, b4, _⟩ := ofDecimalDigits_ok false ds.reverse hne (allDigits_reverse l2)
      refine ⟨b, b1, ?_⟩
      rw [decVal_reverse, l1] at b2
      unfold toInt
      rw [hn, b2]
      cases hb : b.neg with
      | true => exact absurd (b4 hb) (by simp)
      | false => simp

/-- `divide(LP10)` for a value of at most one word runs through the `num < denom` or the 1×1 exit -/
theorem div19Word_one (a : Nat) : div19Word [a] = ((ofWord (a / 10000000000000000000)).mag, a % 10000000000000000000) := by
  unfold div19Word divWord
  by_cases h : a < 10000000000000000000
  · rw [if_pos ((cmpMag_one _ _).2 h), Nat.div_eq_of_lt h, Nat.mod_eq_of_lt h]; rfl
  · rw [if_neg (fun c => h ((cmpMag_one _ _).1 c))]
    simp only [headD_ofWord]

theorem div19Word_exact : Div19Exact (fun v => v.length ≤ 1) div19Word := by
  intro v hP hw
  match v, hP with
  | [], _ =>
    have e : div19Word [] = ([], 0) := rfl
    rw [e]
    exact ⟨rfl, by decide, (fun _ h => nomatch h), Iff.intro (fun _ => rfl) (fun _ => rfl), Nat.zero_le _⟩
  | [a], _ =>
    rw [div19Word_one]
    have e : (10 : Nat) ^ 19 = 10000000000000000000 := by decide
    rw [e]
    refine ⟨?_, Nat.mod_lt _ (by omega), words_ofWord _ ?_, ?_, ?_⟩
    · rw [val_ofWord, val_one]; exact (Nat.div_add_mod' a _).symm
    · have := hw.head; exact Nat.lt_of_le_of_lt (Nat.div_le_self _ _) this
    · rw [val_ofWord]; unfold ofWord; split <;> simp [*]
    · unfold ofWord; split <;> simp

end BigInt
end Model
end JV
