/-
  JV.Proofs.JsonParserSound — SOUNDNESS of the parser model for whole documents: whatever the model accepts (comments off) on a
  text without the two surrogate anomalies (`surrogateOK`), the RFC 8259 reference with the parser's trailing-comma option reads as
  a value. Converse simulation: by induction on the length of the remaining input, an accepting run from a state that expects a
  value (an array body, an object body) in a nesting context decomposes into the reference's parse of a prefix and an accepting
  run from the after-value state of that context on the rest. The model is deterministic and every character the grammar does not
  allow at a point leads to an error code (Proofs/JsonParserSoundCtx, -Str); the forward lemmas of the completeness proof then
  carry the state across each piece the reference has read.
-/
import JV.Proofs.JsonParserSoundStr
namespace JV
namespace Model
namespace JsonParser
open Spec.Rfc8259 (JT Flags parseValue parseElems parseMembers parseText parseString parseNumber skipWs startsWith isWs)

/-- `P` reads `x` off the front of `s` and leaves `r`, at every fuel that is at least the number of characters read. (The
    reference gives an inner production one unit of fuel less than the outer one; an inner production reads fewer characters.) -/
def ReadsAtFuel {α : Type} (P : Nat → Bytes → Option (α × Bytes)) (s : Bytes) (x : α) (r : Bytes) : Prop :=
  r.length < s.length ∧ ∀ f, s.length - r.length ≤ f → P f s = some (x, r)

theorem ReadsAtFuel.intro {α : Type} {P : Nat → Bytes → Option (α × Bytes)} {s r : Bytes} {x : α} (hlt : r.length < s.length)
    (h : ∀ f, s.length - r.length ≤ f + 1 → P (f + 1) s = some (x, r)) : ReadsAtFuel P s x r :=
  ⟨hlt, fun f hf => match f, hf with
    | 0, hf => absurd hf (by omega)
    | f + 1, hf => h f hf⟩

/-- the fuel left for an inner production that starts later and ends no later -/
theorem fuel_inner {a a' b b' f : Nat} (ha : a' < a) (hb : b ≤ b') (hf : a - b ≤ f + 1) : a' - b' ≤ f := by omega

/-- the fuel left for a first inner production that ends earlier -/
theorem fuel_head {a b c f : Nat} (hcb : c < b) (hf : a - c ≤ f + 1) : a - b ≤ f := by omega

/- In the lemmas below `simp only` evaluates one production of the reference: `skipWs_dropWs` turns its `ws` into `dropWs`, the
   hypotheses say what `dropWs` returns, and a hypothesis `∀ rest, dropWs s ≠ c :: rest` in the context discharges the side
   condition of the catch-all alternative of a `match`. -/

theorem reads_arr_nil (fl : Flags) (hc : fl.comments = false) (n : Nat) (cs rest : Bytes) (hd : ¬ n + 1 > fl.maxDepth)
    (h : dropWs cs = 93 :: rest) : ReadsAtFuel (fun f => parseValue fl f n) (91 :: cs) (.arr []) rest :=
  ReadsAtFuel.intro (Nat.lt_succ_of_lt (dropWs_cons_lt h)) fun f _ => by
    show parseValue fl (f + 1) n (91 :: cs) = _
    simp only [parseValue, show ¬ ((91 : Nat) = 123) by decide, if_false, if_true, hd, hc, skipWs_dropWs, h]

theorem reads_arr (fl : Flags) (hc : fl.comments = false) (n : Nat) (cs r : Bytes) (xs : List JT) (hd : ¬ n + 1 > fl.maxDepth)
    (h93 : ∀ rest, dropWs cs ≠ 93 :: rest) (h : ReadsAtFuel (fun f => parseElems fl f (n + 1)) (dropWs cs) xs r) :
    ReadsAtFuel (fun f => parseValue fl f n) (91 :: cs) (.arr xs) r :=
  have hlt : (dropWs cs).length < (91 :: cs).length := Nat.lt_succ_of_le (dropWs_length cs)
  ReadsAtFuel.intro (Nat.lt_trans h.1 hlt) fun f hf => by
    have hp : parseElems fl f (n + 1) (dropWs cs) = some (xs, r) := h.2 f (fuel_inner hlt (Nat.le_refl _) hf)
    show parseValue fl (f + 1) n (91 :: cs) = _
    simp only [parseValue, show ¬ ((91 : Nat) = 123) by decide, if_false, if_true, hd, hc, skipWs_dropWs, hp]
    rfl

theorem reads_obj_nil (fl : Flags) (hc : fl.comments = false) (n : Nat) (cs rest : Bytes) (hd : ¬ n + 1 > fl.maxDepth)
    (h : dropWs cs = 125 :: rest) : ReadsAtFuel (fun f => parseValue fl f n) (123 :: cs) (.obj []) rest :=
  ReadsAtFuel.intro (Nat.lt_succ_of_lt (dropWs_cons_lt h)) fun f _ => by
    show parseValue fl (f + 1) n (123 :: cs) = _
    simp only [parseValue, if_true, hd, if_false, hc, skipWs_dropWs, h]

theorem reads_obj (fl : Flags) (hc : fl.comments = false) (n : Nat) (cs r : Bytes) (ms : List (Bytes × JT))
    (hd : ¬ n + 1 > fl.maxDepth) (h125 : ∀ rest, dropWs cs ≠ 125 :: rest)
    (h : ReadsAtFuel (fun f => parseMembers fl f (n + 1)) (dropWs cs) ms r) :
    ReadsAtFuel (fun f => parseValue fl f n) (123 :: cs) (.obj ms) r :=
  have hlt : (dropWs cs).length < (123 :: cs).length := Nat.lt_succ_of_le (dropWs_length cs)
  ReadsAtFuel.intro (Nat.lt_trans h.1 hlt) fun f hf => by
    have hp : parseMembers fl f (n + 1) (dropWs cs) = some (ms, r) := h.2 f (fuel_inner hlt (Nat.le_refl _) hf)
    show parseValue fl (f + 1) n (123 :: cs) = _
    simp only [parseValue, if_true, hd, if_false, hc, skipWs_dropWs, hp]
    rfl

theorem reads_elems_last (fl : Flags) (hc : fl.comments = false) (d : Nat) (s s1 rest : Bytes) (v : JT)
    (hv : ReadsAtFuel (fun f => parseValue fl f d) s v s1) (h : dropWs s1 = 93 :: rest) :
    ReadsAtFuel (fun f => parseElems fl f d) s [v] rest :=
  have hlt := dropWs_cons_lt h
  ReadsAtFuel.intro (Nat.lt_trans hlt hv.1) fun f hf => by
    have hp : parseValue fl f d s = some (v, s1) := hv.2 f (fuel_head hlt hf)
    show parseElems fl (f + 1) d s = _
    simp only [parseElems, hp, hc, skipWs_dropWs, h]

theorem reads_elems_trail (fl : Flags) (hc : fl.comments = false) (htc : fl.trailingComma = true) (d : Nat) (s s1 s2 rest : Bytes)
    (v : JT) (hv : ReadsAtFuel (fun f => parseValue fl f d) s v s1) (h : dropWs s1 = 44 :: s2) (h3 : dropWs s2 = 93 :: rest) :
    ReadsAtFuel (fun f => parseElems fl f d) s [v] rest :=
  have hlt : rest.length < s1.length := Nat.lt_trans (dropWs_cons_lt h3) (dropWs_cons_lt h)
  ReadsAtFuel.intro (Nat.lt_trans hlt hv.1) fun f hf => by
    have hp : parseValue fl f d s = some (v, s1) := hv.2 f (fuel_head hlt hf)
    show parseElems fl (f + 1) d s = _
    simp only [parseElems, hp, hc, skipWs_dropWs, h, h3, htc, if_true]

theorem reads_elems_more (fl : Flags) (hc : fl.comments = false) (d : Nat) (s s1 s2 r : Bytes) (v : JT) (xs : List JT)
    (hv : ReadsAtFuel (fun f => parseValue fl f d) s v s1) (h : dropWs s1 = 44 :: s2) (h93 : ∀ rest, dropWs s2 ≠ 93 :: rest)
    (he : ReadsAtFuel (fun f => parseElems fl f d) (dropWs s2) xs r) : ReadsAtFuel (fun f => parseElems fl f d) s (v :: xs) r :=
  have h1 : (dropWs s2).length < s1.length := Nat.lt_of_le_of_lt (dropWs_length s2) (dropWs_cons_lt h)
  ReadsAtFuel.intro (Nat.lt_trans he.1 (Nat.lt_trans h1 hv.1)) fun f hf => by
    have hp : parseValue fl f d s = some (v, s1) := hv.2 f (fuel_head (Nat.lt_trans he.1 h1) hf)
    have hq : parseElems fl f d (dropWs s2) = some (xs, r) := he.2 f (fuel_inner (Nat.lt_trans h1 hv.1) (Nat.le_refl _) hf)
    show parseElems fl (f + 1) d s = _
    simp only [parseElems, hp, hc, skipWs_dropWs, h, hq]
    rfl

theorem reads_members_last (fl : Flags) (hc : fl.comments = false) (d : Nat) (s s1 s2 s4 rest k : Bytes) (v : JT)
    (hk : parseString s = some (k, s1)) (hks : s1.length < s.length) (h1 : dropWs s1 = 58 :: s2)
    (hv : ReadsAtFuel (fun f => parseValue fl f d) (dropWs s2) v s4) (h4 : dropWs s4 = 125 :: rest) :
    ReadsAtFuel (fun f => parseMembers fl f d) s [(k, v)] rest :=
  have h3 : (dropWs s2).length < s.length := Nat.lt_trans (Nat.lt_of_le_of_lt (dropWs_length s2) (dropWs_cons_lt h1)) hks
  have hlt := dropWs_cons_lt h4
  ReadsAtFuel.intro (Nat.lt_trans hlt (Nat.lt_trans hv.1 h3)) fun f hf => by
    have hp : parseValue fl f d (dropWs s2) = some (v, s4) := hv.2 f (fuel_inner h3 (Nat.le_of_lt hlt) hf)
    show parseMembers fl (f + 1) d s = _
    simp only [parseMembers, hk, hc, skipWs_dropWs, h1, hp, h4]

theorem reads_members_trail (fl : Flags) (hc : fl.comments = false) (htc : fl.trailingComma = true) (d : Nat)
    (s s1 s2 s4 s5 rest k : Bytes) (v : JT) (hk : parseString s = some (k, s1)) (hks : s1.length < s.length)
    (h1 : dropWs s1 = 58 :: s2) (hv : ReadsAtFuel (fun f => parseValue fl f d) (dropWs s2) v s4) (h4 : dropWs s4 = 44 :: s5)
    (h6 : dropWs s5 = 125 :: rest) : ReadsAtFuel (fun f => parseMembers fl f d) s [(k, v)] rest :=
  have h3 : (dropWs s2).length < s.length := Nat.lt_trans (Nat.lt_of_le_of_lt (dropWs_length s2) (dropWs_cons_lt h1)) hks
  have hlt : rest.length < s4.length := Nat.lt_trans (dropWs_cons_lt h6) (dropWs_cons_lt h4)
  ReadsAtFuel.intro (Nat.lt_trans hlt (Nat.lt_trans hv.1 h3)) fun f hf => by
    have hp : parseValue fl f d (dropWs s2) = some (v, s4) := hv.2 f (fuel_inner h3 (Nat.le_of_lt hlt) hf)
    show parseMembers fl (f + 1) d s = _
    simp only [parseMembers, hk, hc, skipWs_dropWs, h1, hp, h4, h6, htc, if_true]

theorem reads_members_more (fl : Flags) (hc : fl.comments = false) (d : Nat) (s s1 s2 s4 s5 r k : Bytes) (v : JT)
    (ms : List (Bytes × JT)) (hk : parseString s = some (k, s1)) (hks : s1.length < s.length) (h1 : dropWs s1 = 58 :: s2)
    (hv : ReadsAtFuel (fun f => parseValue fl f d) (dropWs s2) v s4) (h4 : dropWs s4 = 44 :: s5)
    (h6 : ∀ rest, dropWs s5 ≠ 125 :: rest) (hm : ReadsAtFuel (fun f => parseMembers fl f d) (dropWs s5) ms r) :
    ReadsAtFuel (fun f => parseMembers fl f d) s ((k, v) :: ms) r :=
  have h3 : (dropWs s2).length < s.length := Nat.lt_trans (Nat.lt_of_le_of_lt (dropWs_length s2) (dropWs_cons_lt h1)) hks
  have h5 : (dropWs s5).length < s4.length := Nat.lt_of_le_of_lt (dropWs_length s5) (dropWs_cons_lt h4)
  have h7 : (dropWs s5).length < s.length := Nat.lt_trans h5 (Nat.lt_trans hv.1 h3)
  ReadsAtFuel.intro (Nat.lt_trans hm.1 h7) fun f hf => by
    have hp : parseValue fl f d (dropWs s2) = some (v, s4) :=
      hv.2 f (fuel_inner h3 (Nat.le_of_lt (Nat.lt_trans hm.1 h5)) hf)
    have hq : parseMembers fl f d (dropWs s5) = some (ms, r) := hm.2 f (fuel_inner h7 (Nat.le_refl _) hf)
    show parseMembers fl (f + 1) d s = _
    simp only [parseMembers, hk, hc, skipWs_dropWs, h1, hp, h4, hq]
    rfl

/-- from `s` the machine accepts the remaining text `t`, and `t` has no surrogate anomaly -/
structure Run (cfg : Cfg) (s : St) (t : Bytes) : Prop where
  acc : Acc cfg s t
  sok : surrogateOK t = true

theorem Run.ws {cfg : Cfg} {s : St} {t : Bytes} (h : Run cfg s t) (hs : wsState s.st = true) : Run cfg s (dropWs t) :=
  ⟨h.acc.ws hs, by rw [sOK_dropWs_eq]; exact h.sok⟩

theorem Run.reach {cfg : Cfg} {s0 s1 : St} {t p b : Bytes} {evs : List Ev} (h : Run cfg s0 t) (R : Reach cfg s0 t s1 b evs)
    (ht : t = p ++ b) (hp : ∀ x ∈ p, x ≠ 92) : Run cfg s1 b :=
  ⟨h.acc.of_reach R, by rw [← sOK_drop_eq p b hp, ← ht]; exact h.sok⟩

theorem Run.char {cfg : Cfg} {s0 s1 : St} {c : Nat} {b : Bytes} {evs : List Ev} (h : Run cfg s0 (c :: b))
    (R : Reach cfg s0 (c :: b) s1 b evs) (hc : c ≠ 92) : Run cfg s1 b :=
  h.reach R (p := [c]) rfl (fun x hx => by rw [List.mem_singleton.1 hx]; exact hc)

/-- the head of the remaining input where a value must start: not white space (it has been skipped), and not a `]` directly
    inside an array (the end of an empty array, or a trailing comma) -/
def HeadOK (s : Bytes) (s0 : St) : Prop := ∀ c r, s = c :: r → isWs c = false ∧ ¬ (c = 93 ∧ parent s0 = .array)

/-- the soundness claim for a value (`EAt`: the rest of an array, `MAt`: the rest of an object) on remaining texts shorter than
    `k`: what the machine goes on to accept begins with what the reference reads as a value, and the machine is then after it -/
def VAt (cfg : Cfg) (k : Nat) : Prop :=
  ∀ (s : Bytes), s.length < k → ∀ (n : Nat) (stk : List PS) (s0 : St), Ctx stk n → s0.stack = stk → s0.level = n →
    vState s0.st = true → HeadOK s s0 → Run cfg s0 s →
    ∃ v r s1, ReadsAtFuel (fun f => parseValue (tcFlags cfg) f n) s v r ∧ Run cfg s1 r ∧ Shape s1 (afterSt n) stk n

def EAt (cfg : Cfg) (k : Nat) : Prop :=
  ∀ (s : Bytes), s.length < k → ∀ (n : Nat) (stk : List PS) (s0 : St), Ctx stk n → s0.stack = .array :: stk → s0.level = n + 1 →
    vState s0.st = true → HeadOK s s0 → Run cfg s0 s →
    ∃ xs r s1, ReadsAtFuel (fun f => parseElems (tcFlags cfg) f (n + 1)) s xs r ∧ Run cfg s1 r ∧ Shape s1 (afterSt n) stk n

def MAt (cfg : Cfg) (k : Nat) : Prop :=
  ∀ (s : Bytes), s.length < k → ∀ (n : Nat) (stk : List PS) (s0 : St), Ctx stk n → s0.stack = .object :: stk → s0.level = n + 1 →
    (s0.st = .expectMemberNameOrEnd ∨ s0.st = .expectMemberName) → (∃ r, s = 34 :: r) → Run cfg s0 s →
    ∃ ms r s1, ReadsAtFuel (fun f => parseMembers (tcFlags cfg) f (n + 1)) s ms r ∧ Run cfg s1 r ∧ Shape s1 (afterSt n) stk n

theorem sound_value (cfg : Cfg) (hcm : cfg.comments = false) (k : Nat)
    (ihE : EAt cfg k) (ihM : MAt cfg k) : VAt cfg (k + 1) := by
  intro s hlen n stk s0 hctx hstk hlvl hvs hhead hrun
  have he := hrun.acc.err_none
  cases s with
  | nil => exact absurd hrun.acc (ws_not_eof cfg s0 (vState_ws hvs))
  | cons c cs =>
    obtain ⟨hw, hne⟩ := hhead c cs rfl
    have hlen' : (dropWs cs).length < k := Nat.lt_of_le_of_lt (dropWs_length cs) (Nat.lt_of_succ_lt_succ hlen)
    rcases value_head cfg hcm s0 hvs c cs hw hne hrun.acc with rfl | rfl | rfl | hsc
    · -- an object
      have hd : ¬ n + 1 > cfg.maxDepth := hlvl ▸ depth_inv cfg s0 hvs 123 (Or.inr rfl) cs hrun.acc
      obtain ⟨sB, RB, hB1, hB2, hB3⟩ := reach_beginObject cfg s0 cs hvs he hstk hlvl hd
      have hB := (hrun.char RB (by decide)).ws (by rw [hB1]; rfl)
      rcases key_inv cfg hcm sB (Or.inl hB1) (dropWs cs) (dropWs_head cs) hB.acc with ⟨r, hr⟩ | ⟨_, r, hr⟩
      · obtain ⟨ms, r', sM, hp, hM, hS⟩ := ihM (dropWs cs) hlen' n stk sB hctx hB2 hB3 (Or.inl hB1) ⟨r, hr⟩ hB
        exact ⟨.obj ms, r', sM, reads_obj _ rfl n cs r' ms hd (by intro rest e; rw [hr] at e; cases e) hp, hM, hS⟩
      · obtain ⟨sE, RE, hE⟩ := reach_endObject cfg sB r ⟨hB1, hB2, hB3⟩ (.inr (.inl rfl)) RB.2.1
        rw [hr] at hB
        exact ⟨.obj [], r, sE, reads_obj_nil _ rfl n cs r hd hr, hB.char RE (by decide), hE⟩
    · -- an array
      have hd : ¬ n + 1 > cfg.maxDepth := hlvl ▸ depth_inv cfg s0 hvs 91 (Or.inl rfl) cs hrun.acc
      obtain ⟨sB, RB, hB1, hB2, hB3⟩ := reach_beginArray cfg s0 cs hvs he hstk hlvl hd
      have hB := (hrun.char RB (by decide)).ws (by rw [hB1]; rfl)
      cases hs1 : dropWs cs with
      | nil => rw [hs1] at hB; exact absurd hB.acc (ws_not_eof cfg sB (by rw [hB1]; rfl))
      | cons c' r' =>
        by_cases h93 : c' = 93
        · subst h93
          obtain ⟨sE, RE, hE⟩ := reach_endArray cfg sB r' ⟨hB1, hB2, hB3⟩ (.inr (.inl rfl)) RB.2.1
          rw [hs1] at hB
          exact ⟨.arr [], r', sE, reads_arr_nil _ rfl n cs r' hd hs1, hB.char RE (by decide), hE⟩
        · have hhead' : HeadOK (dropWs cs) sB := by
            intro c'' r'' e
            rw [hs1] at e; cases e
            exact ⟨dropWs_head cs _ _ hs1, fun hh => h93 hh.1⟩
          obtain ⟨xs, r, sM, hp, hM, hS⟩ := ihE (dropWs cs) hlen' n stk sB hctx hB2 hB3 (by rw [hB1]; rfl) hhead' hB
          exact ⟨.arr xs, r, sM, reads_arr _ rfl n cs r xs hd (by intro rest e; rw [hs1] at e; cases e; exact h93 rfl) hp, hM, hS⟩
    · -- a string
      have h0 : feedChar cfg s0 34 = startString s0 := feedChar_value cfg s0 _ 34 hvs he (by simp [valueStart])
      have hS : Acc cfg (startString s0) cs := by have := hrun.acc.step; rwa [h0] at this
      obtain ⟨b, rest, hp, hok', hl'⟩ := string_inv cfg (startString s0) rfl rfl rfl cs
        (by rw [← sOK_cons_eq 34 cs (by decide)]; exact hrun.sok) hS
      obtain ⟨s1, R1, h1⟩ := reach_string cfg hctx s0 (34 :: cs) b rest hp hvs he hstk hlvl
      exact ⟨.str b, rest, s1, ReadsAtFuel.intro (Nat.lt_succ_of_lt hl') fun f _ => by simp [parseValue, hp],
        ⟨hrun.acc.of_reach R1, hok'⟩, h1⟩
    · -- a literal or a number
      obtain ⟨v, p, r, s1, evs, hsplit, hne', h92, hpv, R1, h1⟩ := scalar_inv cfg hctx s0 hvs hstk hlvl c cs hsc hrun.acc
      have hlt : r.length < (c :: cs).length := by
        rw [hsplit, List.length_append]
        exact Nat.lt_add_of_pos_left (List.length_pos_iff.2 hne')
      exact ⟨v, r, s1, ReadsAtFuel.intro hlt fun f _ => hpv _ f n, hrun.reach R1 hsplit h92, h1⟩

theorem sound_elems (cfg : Cfg) (hcm : cfg.comments = false) (k : Nat)
    (hV : VAt cfg (k + 1)) (ihE : EAt cfg k) : EAt cfg (k + 1) := by
  intro s hlen n stk s0 hctx hstk hlvl hvs hhead hrun
  obtain ⟨v, s1, sV, hpv, hR1, hV1, hV2, hV3⟩ :=
    hV s hlen (n + 1) (.array :: stk) s0 (Ctx.arr hctx) hstk hlvl hvs hhead hrun
  rw [afterSt_succ] at hV1
  have heV := hR1.acc.err_none
  have hR1' := hR1.ws (by rw [hV1]; rfl)
  rcases after_value_inv cfg hcm sV hV1 (dropWs s1) (dropWs_head s1) hR1'.acc with ⟨s2, hr⟩ | ⟨rest, hr, _⟩ | ⟨rest, _, hp⟩
  · -- a comma
    rw [hr] at hR1'
    obtain ⟨sC, RC, hC1, hC2, hC3⟩ := reach_comma_array cfg sV s2 ⟨hV1, hV2, hV3⟩ heV
    have hRC := (hR1'.char RC (by decide)).ws (by rw [hC1]; rfl)
    cases hs3 : dropWs s2 with
    | nil => rw [hs3] at hRC; exact absurd hRC.acc (ws_not_eof cfg sC (by rw [hC1]; rfl))
    | cons c3 r3 =>
      by_cases h93c : c3 = 93
      · -- a trailing comma
        subst h93c
        rw [hs3] at hRC
        by_cases htc : cfg.trailingComma = true
        · obtain ⟨sE, RE, hE⟩ := reach_endArray cfg sC r3 ⟨hC1, hC2, hC3⟩ (.inr (.inr ⟨rfl, htc⟩)) RC.2.1
          exact ⟨[v], r3, sE, reads_elems_trail _ rfl htc (n + 1) s s1 s2 r3 v hpv hr hs3, hRC.char RE (by decide), hE⟩
        · exact absurd hRC.acc (Acc.not_dead (trailing_rbracket_dead cfg htc sC hC1 RC.2.1))
      · have hhead3 : HeadOK (dropWs s2) sC := by
          intro c r e
          rw [hs3] at e; cases e
          exact ⟨dropWs_head s2 _ _ hs3, fun hh => h93c hh.1⟩
        have hlen3 : (dropWs s2).length < k :=
          Nat.lt_of_lt_of_le (Nat.lt_trans (Nat.lt_of_le_of_lt (dropWs_length s2) (dropWs_cons_lt hr)) hpv.1)
            (Nat.le_of_lt_succ hlen)
        obtain ⟨xs, r, sM, hpe, hM, hS⟩ := ihE (dropWs s2) hlen3 n stk sC hctx hC2 hC3 (by rw [hC1]; rfl) hhead3 hRC
        exact ⟨v :: xs, r, sM,
          reads_elems_more _ rfl (n + 1) s s1 s2 r v xs hpv hr (by intro rest e; rw [hs3] at e; cases e; exact h93c rfl) hpe,
          hM, hS⟩
  · -- the closing bracket
    rw [hr] at hR1'
    obtain ⟨sE, RE, hE⟩ := reach_endArray cfg sV rest ⟨hV1, hV2, hV3⟩ (.inl rfl) heV
    exact ⟨[v], rest, sE, reads_elems_last _ rfl (n + 1) s s1 rest v hpv hr, hR1'.char RE (by decide), hE⟩
  · exact absurd hp (by simp [parent, hV2])

theorem sound_members (cfg : Cfg) (hcm : cfg.comments = false) (k : Nat)
    (hV : VAt cfg k) (ihM : MAt cfg k) : MAt cfg (k + 1) := by
  intro s hlen n stk s0 hctx hstk hlvl hs0 hq hrun
  obtain ⟨cs, rfl⟩ := hq
  have he := hrun.acc.err_none
  have hlen' : cs.length < k := Nat.lt_of_succ_lt_succ hlen
  have h1 := feedChar_memberName cfg s0 hs0 he
  have hS : Acc cfg (startString (push s0 .memberName)) cs := by have := hrun.acc.step; rwa [h1] at this
  obtain ⟨kb, s1, hp, hok1, hl1⟩ := string_inv cfg _ rfl rfl rfl cs (by rw [← sOK_cons_eq 34 cs (by decide)]; exact hrun.sok) hS
  have hks : s1.length < (34 :: cs).length := Nat.lt_succ_of_lt hl1
  obtain ⟨sK, RK, hK1, hK2, hK3⟩ := reach_key cfg s0 (34 :: cs) kb s1 hp hs0 he hstk hlvl
  have hRK := (Run.mk (hrun.acc.of_reach RK) hok1).ws (by rw [hK1]; rfl)
  obtain ⟨s2, hr1⟩ := colon_inv cfg hcm sK hK1 (dropWs s1) (dropWs_head s1) hRK.acc
  rw [hr1] at hRK
  obtain ⟨sC, RC, hC1, hC2, hC3⟩ := reach_colon cfg sK s2 ⟨hK1, hK2, hK3⟩ RK.2.1
  have hRC := (hRK.char RC (by decide)).ws (by rw [hC1]; rfl)
  have hhead3 : HeadOK (dropWs s2) sC := by
    intro c r e
    exact ⟨dropWs_head s2 c r e, fun hh => by simp [parent, hC2] at hh⟩
  have hlen3 : (dropWs s2).length < k :=
    Nat.lt_trans (Nat.lt_trans (Nat.lt_of_le_of_lt (dropWs_length s2) (dropWs_cons_lt hr1)) hl1) hlen'
  obtain ⟨v, s4, sV, hpv, hR4, hV1, hV2, hV3⟩ :=
    hV (dropWs s2) hlen3 (n + 1) (.object :: stk) sC (Ctx.obj hctx) hC2 hC3 (by rw [hC1]; rfl) hhead3 hRC
  rw [afterSt_succ] at hV1
  have heV := hR4.acc.err_none
  have hR4' := hR4.ws (by rw [hV1]; rfl)
  rcases after_value_inv cfg hcm sV hV1 (dropWs s4) (dropWs_head s4) hR4'.acc with ⟨s5, hr4⟩ | ⟨rest, _, hpa⟩ | ⟨rest, hr4, _⟩
  · -- a comma
    rw [hr4] at hR4'
    obtain ⟨sD, RD, hD1, hD2, hD3⟩ := reach_comma_object cfg sV s5 ⟨hV1, hV2, hV3⟩ heV
    have hRD := (hR4'.char RD (by decide)).ws (by rw [hD1]; rfl)
    rcases key_inv cfg hcm sD (Or.inr hD1) (dropWs s5) (dropWs_head s5) hRD.acc with ⟨r, hr⟩ | ⟨hc, r, hr⟩
    · have hlen5 : (dropWs s5).length < k :=
        Nat.lt_trans (Nat.lt_trans (Nat.lt_of_le_of_lt (dropWs_length s5) (dropWs_cons_lt hr4)) hpv.1) hlen3
      obtain ⟨ms, r', sM, hpm, hM, hS'⟩ := ihM (dropWs s5) hlen5 n stk sD hctx hD2 hD3 (Or.inr hD1) ⟨r, hr⟩ hRD
      exact ⟨(kb, v) :: ms, r', sM,
        reads_members_more _ rfl (n + 1) _ s1 s2 s4 s5 r' kb v ms hp hks hr1 hpv hr4 (by intro rest e; rw [hr] at e; cases e) hpm,
        hM, hS'⟩
    · -- a trailing comma
      have htc : cfg.trailingComma = true := by
        rcases hc with hc | hc
        · rw [hD1] at hc; cases hc
        · exact hc
      rw [hr] at hRD
      obtain ⟨sE, RE, hE⟩ := reach_endObject cfg sD r ⟨hD1, hD2, hD3⟩ (.inr (.inr ⟨rfl, htc⟩)) RD.2.1
      exact ⟨[(kb, v)], r, sE, reads_members_trail _ rfl htc (n + 1) _ s1 s2 s4 s5 r kb v hp hks hr1 hpv hr4 hr,
        hRD.char RE (by decide), hE⟩
  · exact absurd hpa (by simp [parent, hV2])
  · -- the closing brace
    rw [hr4] at hR4'
    obtain ⟨sE, RE, hE⟩ := reach_endObject cfg sV rest ⟨hV1, hV2, hV3⟩ (.inl rfl) heV
    exact ⟨[(kb, v)], rest, sE, reads_members_last _ rfl (n + 1) _ s1 s2 s4 rest kb v hp hks hr1 hpv hr4,
      hR4'.char RE (by decide), hE⟩

theorem sound_all (cfg : Cfg) (hcm : cfg.comments = false) :
    ∀ k, VAt cfg k ∧ EAt cfg k ∧ MAt cfg k
  | 0 => ⟨fun _ h => absurd h (Nat.not_lt_zero _), fun _ h => absurd h (Nat.not_lt_zero _), fun _ h => absurd h (Nat.not_lt_zero _)⟩
  | k + 1 =>
    have ih := sound_all cfg hcm k
    have hV := sound_value cfg hcm k ih.2.1 ih.2.2
    ⟨hV, sound_elems cfg hcm k hV ih.2.1, sound_members cfg hcm k ih.1 ih.2.2⟩

theorem run_sound_tc (cfg : Cfg) (hcm : cfg.comments = false) (bs : Bytes)
    (hok : surrogateOK bs = true) (h : accepted (run cfg bs) = true) : ∃ v, parseText (tcFlags cfg) bs = some v := by
  have hrun := (Run.mk (cfg := cfg) (s := init) h hok).ws rfl
  have hhead : HeadOK (dropWs bs) init := by
    intro c r e
    exact ⟨dropWs_head bs c r e, fun hh => by simp [parent, init] at hh⟩
  obtain ⟨v, r, s1, hp, hR1, h1, _, _⟩ := (sound_all cfg hcm ((dropWs bs).length + 1)).1 (dropWs bs) (Nat.lt_succ_self _)
    0 [.root] init Ctx.root rfl rfl rfl hhead hrun
  exact ⟨v, parseText_of _ rfl bs r v (hp.2 _ (Nat.le_succ_of_le (Nat.sub_le _ _))) (hR1.acc.tail_ws (Or.inl h1))⟩

theorem run_sound_tc_events (cfg : Cfg) (hcm : cfg.comments = false) (bs : Bytes)
    (hok : surrogateOK bs = true) (h : accepted (run cfg bs) = true) :
    ∃ v, parseText (tcFlags cfg) bs = some v ∧ er (run cfg bs).evs.reverse = eventsOf v := by
  obtain ⟨v, hv⟩ := run_sound_tc cfg hcm bs hok h
  exact ⟨v, hv, (run_complete_tc cfg bs v hv).2⟩

theorem accepted_iff_isSome {α : Type} {a : Bool} {o : Option α} (hs : a = true → ∃ v, o = some v)
    (hc : ∀ v, o = some v → a = true) : a = true ↔ o.isSome = true := by
  constructor
  · intro h
    obtain ⟨v, hv⟩ := hs h
    rw [hv]; rfl
  · intro h
    cases ho : o with
    | none => rw [ho] at h; cases h
    | some v => exact hc v ho

theorem run_exact_tc (cfg : Cfg) (hcm : cfg.comments = false) (bs : Bytes) (hok : surrogateOK bs = true) :
    accepted (run cfg bs) = true ↔ (parseText (tcFlags cfg) bs).isSome = true :=
  accepted_iff_isSome (run_sound_tc cfg hcm bs hok) (fun v hv => (run_complete_tc cfg bs v hv).1)

/-- No hypothesis on surrogates (such a text has no string) nor on trailing commas (it has no container). -/
theorem run_sound_scalar (cfg : Cfg) (hcm : cfg.comments = false) (bs : Bytes)
    (hroot : ∀ c r, dropWs bs = c :: r → c ≠ 34 ∧ c ≠ 91 ∧ c ≠ 123)
    (h : accepted (run cfg bs) = true) : ∃ v, parseText (strictFlags cfg) bs = some v := by
  have hA := (show Acc cfg init bs from h).ws rfl
  cases hd : dropWs bs with
  | nil => rw [hd] at hA; exact absurd hA (ws_not_eof cfg init rfl)
  | cons c cs =>
    rw [hd] at hA
    obtain ⟨h34, h91, h123⟩ := hroot c cs hd
    rcases value_head cfg hcm init rfl c cs (dropWs_head bs c cs hd) (by simp [parent, init]) hA with e | e | e | hsc
    · exact absurd e h123
    · exact absurd e h91
    · exact absurd e h34
    · obtain ⟨v, _, r, s1, _, _, _, _, hpv, R1, h1, _, _⟩ := scalar_inv cfg Ctx.root init rfl rfl rfl c cs hsc hA
      exact ⟨v, parseText_of _ rfl bs r v (by rw [hd]; exact hpv _ _ 0) ((hA.of_reach R1).tail_ws (Or.inl h1))⟩

end JsonParser
end Model
end JV
