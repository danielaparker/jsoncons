/-
  JV.Proofs.CborRoundtrip — what the CBOR encoder model writes, the RFC 8949 reference decoder reads back.
-/
import JV.Model.Cbor
import JV.Spec.Cbor
import JV.Proofs.CborSpec
namespace JV
namespace Model
namespace Cbor
open Spec.Cbor

theorem writeHead_wide (major n : Nat) (h : 0x17 < n) (hn : n < 2 ^ 64) :
    ∃ j, j < 4 ∧ n < 256 ^ 2 ^ j ∧ writeHead major n = (major * 32 + (24 + j)) :: beBytes (2 ^ j) n := by
  unfold writeHead
  rw [if_neg (by omega)]
  by_cases h1 : n ≤ 0xff
  · exact ⟨0, by omega, by omega, by rw [if_pos h1]; simp [beBytes]; omega⟩
  by_cases h2 : n ≤ 0xffff
  · exact ⟨1, by omega, by omega, by rw [if_neg h1, if_pos h2]⟩
  by_cases h3 : n ≤ 0xffffffff
  · exact ⟨2, by omega, by omega, by rw [if_neg h1, if_neg h2, if_pos h3]⟩
  · exact ⟨3, by omega, by omega, by rw [if_neg h1, if_neg h2, if_neg h3]⟩

/-- the head `writeHead major n` writes is an initial byte of that major type whose argument the reference reads back as `n`, whatever follows -/
theorem head_read (major n : Nat) (hm : major < 8) (hn : n < 2 ^ 64) (rest : Bytes) :
    ∃ ib tail, writeHead major n ++ rest = ib :: tail ∧ ib / 32 = major ∧ ib % 32 < 28 ∧ readArg (ib % 32) tail = some (n, rest) := by
  by_cases h : n ≤ 0x17
  · refine ⟨major * 32 + n, rest, by rw [writeHead, if_pos h]; rfl, by omega, by omega, ?_⟩
    rw [show (major * 32 + n) % 32 = n by omega, readArg, if_pos (by omega)]
  · obtain ⟨j, hj, hnj, he⟩ := writeHead_wide major n (by omega) hn
    refine ⟨_, _, by rw [he]; rfl, by omega, by omega, ?_⟩
    rw [show (major * 32 + (24 + j)) % 32 = 24 + j by omega]
    exact readArg_beBytes j n hj hnj rest

mutual
  def toBV : CV → BV
    | .null => .null
    | .bool b => .bool b
    | .int i => .int i ""
    | .dbl b => .dbl b ""
    | .str s => .str s ""
    | .bytes b => .bytes b ""
    | .arr xs => .arr (toBVList xs)
    | .map ms => .map (toBVMembers ms)
  def toBVList : List CV → List BV
    | [] => []
    | x :: xs => toBV x :: toBVList xs
  def toBVMembers : List (Bytes × CV) → List (Bytes × BV)
    | [] => []
    | (k, x) :: ms => (k, toBV x) :: toBVMembers ms
end

/-- the float32 shortcut loses nothing on this double -/
def DoubleOK (b : Nat) : Prop := b < 2 ^ 64 ∧ ∀ f, narrowF32 b = some f → f < 2 ^ 32 ∧ f32ToF64 f = b

mutual
  def OK : CV → Prop
    | .int i => -(2 ^ 63 : Int) ≤ i ∧ i < 2 ^ 64
    | .dbl b => DoubleOK b
    | .str s => s.length < 2 ^ 64 ∧ Spec.Rfc8259.validUtf8 s = true
    | .bytes b => b.length < 2 ^ 64
    | .arr xs => xs.length < 2 ^ 64 ∧ OKList xs
    | .map ms => ms.length < 2 ^ 64 ∧ OKMembers ms
    | _ => True
  def OKList : List CV → Prop
    | [] => True
    | x :: xs => OK x ∧ OKList xs
  def OKMembers : List (Bytes × CV) → Prop
    | [] => True
    | (k, x) :: ms => (k.length < 2 ^ 64 ∧ Spec.Rfc8259.validUtf8 k = true) ∧ OK x ∧ OKMembers ms
end

mutual
  /-- fuel with which the reference's `item` reads `encode v` back (one unit per nesting level and per list position) -/
  def need : CV → Nat
    | .arr xs => 1 + needList xs
    | .map ms => 1 + needMembers ms
    | _ => 1
  def needList : List CV → Nat
    | [] => 0
    | x :: xs => 1 + max (need x) (needList xs)
  def needMembers : List (Bytes × CV) → Nat
    | [] => 0
    | (_, x) :: ms => 1 + max 1 (max (need x) (needMembers ms))
end

theorem beVal_beBytes8 (n : Nat) (h : n < 2 ^ 64) : beVal (beBytes 8 n) = n :=
  beVal_beBytes 8 n h

theorem beVal_beBytes4 (n : Nat) (h : n < 2 ^ 32) : beVal (beBytes 4 n) = n :=
  beVal_beBytes 4 n h

theorem item_head (fuel major n : Nat) (hm : major < 6) (hn : n < 2 ^ 64) (s : Bytes) :
    item (fuel + 1) none (writeHead major n ++ s) =
      match major with
      | 0 => .ok (.int n "") s
      | 1 => .ok (.int (-1 - (n : Int)) "") s
      | 2 => if s.length < n then .illformed else .ok (.bytes (s.take n) "") (s.drop n)
      | 3 => if s.length < n then .illformed
             else if Spec.Rfc8259.validUtf8 (s.take n) then .ok (.str (s.take n) "") (s.drop n) else .illformed
      | 4 => (items fuel n s).map .arr
      | _ => (members fuel n s).map .map := by
  obtain ⟨ib, tail, he, hmaj, hai, hr⟩ := head_read major n (by omega) hn s
  rw [he]
  rcases (by omega : major = 0 ∨ major = 1 ∨ major = 2 ∨ major = 3 ∨ major = 4 ∨ major = 5) with rfl | rfl | rfl | rfl | rfl | rfl
  · exact spec_uint fuel ib tail hai hr hmaj
  · exact spec_nint fuel ib tail hai hr hmaj
  · exact spec_bytes fuel ib tail hai hr hmaj
  · exact spec_text fuel ib tail hai hr hmaj
  · exact spec_array fuel ib tail hai hr hmaj
  · exact spec_map fuel ib tail hai hr hmaj

theorem item_text (fuel : Nat) (s rest : Bytes) (hl : s.length < 2 ^ 64) (hv : Spec.Rfc8259.validUtf8 s = true) :
    item (fuel + 1) none (writeHead 3 s.length ++ s ++ rest) = .ok (.str s "") rest := by
  rw [List.append_assoc, item_head fuel 3 _ (by omega) hl]
  simp [hv]

theorem item_bytes (fuel : Nat) (b rest : Bytes) (hl : b.length < 2 ^ 64) :
    item (fuel + 1) none (writeHead 2 b.length ++ b ++ rest) = .ok (.bytes b "") rest := by
  rw [List.append_assoc, item_head fuel 2 _ (by omega) hl]
  simp

theorem item_int (fuel : Nat) (i : Int) (rest : Bytes) (hlo : -(2 ^ 63 : Int) ≤ i) (hhi : i < 2 ^ 64) :
    item (fuel + 1) none (writeInt i ++ rest) = .ok (.int i "") rest := by
  unfold writeInt
  by_cases hv : i ≥ 0
  · rw [if_pos hv, item_head fuel 0 _ (by omega) (by omega), Int.toNat_of_nonneg hv]
    rfl
  · rw [if_neg hv, item_head fuel 1 _ (by omega) (by omega), Int.toNat_of_nonneg (by omega), Int.sub_sub_self]
    rfl

/-- `f32ToF64` on a binary32 pattern given by its sign, exponent and fraction fields, subnormals aside: what discharges `DoubleOK`
    outside the binary32-subnormal band -/
theorem f32ToF64_fields {f : Nat} (s e m : Nat) (hf : f = s * 2 ^ 31 + e * 2 ^ 23 + m) (he : e < 256) (hm : m < 2 ^ 23)
    (h0 : e = 0 → m = 0) :
    f32ToF64 f =
      if e = 255 then s * 2 ^ 63 + 2047 * 2 ^ 52 + m * 2 ^ 29
      else if e = 0 then s * 2 ^ 63
      else s * 2 ^ 63 + (e + 896) * 2 ^ 52 + m * 2 ^ 29 := by
  have e1 : f / 2147483648 = s := by omega
  have e2 : f / 8388608 % 256 = e := by omega
  have e3 : f % 8388608 = m := by omega
  simp only [f32ToF64, e1, e2, e3]
  by_cases h : e = 0
  · simp [h, h0 h]
  · simp [h]

theorem item_double (fuel : Nat) (b : Nat) (rest : Bytes) (h : DoubleOK b) :
    item (fuel + 1) none (encodeDouble b ++ rest) = .ok (.dbl b "") rest := by
  unfold encodeDouble
  cases hn : narrowF32 b with
  | none =>
    have hr : readArg 27 (beBytes 8 b ++ rest) = some (b, rest) := readArg_beBytes 3 b (by omega) h.1 rest
    simp [item, hr]
  | some f =>
    obtain ⟨hf, hw⟩ := h.2 f hn
    have hr : readArg 26 (beBytes 4 f ++ rest) = some (f, rest) := readArg_beBytes 2 f (by omega) hf rest
    simp [item, hr, hw]

theorem length_toBVList : ∀ xs : List CV, (toBVList xs).length = xs.length
  | [] => rfl
  | _ :: xs => by simp [toBVList, length_toBVList xs]

theorem need_pos (v : CV) : 0 < need v := by
  cases v <;> simp only [need] <;> omega

mutual
  theorem enc_dec : ∀ (v : CV) (rest : Bytes) (fuel : Nat), OK v → need v ≤ fuel →
      item fuel none (encode v ++ rest) = .ok (toBV v) rest
    | v, _, 0, _, hf => absurd hf (Nat.not_le_of_gt (need_pos v))
    | .null, rest, f + 1, _, _ => by simp [encode, item, toBV]
    | .bool b, rest, f + 1, _, _ => by cases b <;> simp [encode, item, toBV]
    | .int i, rest, f + 1, h, _ => item_int f i rest h.1 h.2
    | .dbl b, rest, f + 1, h, _ => item_double f b rest h
    | .str s, rest, f + 1, h, _ => item_text f s rest h.1 h.2
    | .bytes b, rest, f + 1, h, _ => item_bytes f b rest h
    | .arr xs, rest, f + 1, h, hf => by
      have hf : 1 + needList xs ≤ f + 1 := hf
      rw [encode, List.append_assoc, item_head f 4 _ (by omega) h.1, encList_dec xs rest f h.2 (by omega)]
      rfl
    | .map ms, rest, f + 1, h, hf => by
      have hf : 1 + needMembers ms ≤ f + 1 := hf
      rw [encode, List.append_assoc, item_head f 5 _ (by omega) h.1, encMembers_dec ms rest f h.2 (by omega)]
      rfl
  theorem encList_dec : ∀ (xs : List CV) (rest : Bytes) (fuel : Nat), OKList xs → needList xs ≤ fuel →
      items fuel xs.length (encodeList xs ++ rest) = .ok (toBVList xs) rest
    | [], rest, fuel, _, _ => by cases fuel <;> simp [items, encodeList, toBVList]
    | x :: xs, rest, 0, _, hf => absurd hf (by simp [needList])
    | x :: xs, rest, f + 1, h, hf => by
      have hf : 1 + max (need x) (needList xs) ≤ f + 1 := hf
      have i1 := enc_dec x (encodeList xs ++ rest) f h.1 (by omega)
      have i2 := encList_dec xs rest f h.2 (by omega)
      simp only [encodeList, List.length_cons, items, List.append_assoc, i1, i2, toBVList]
  theorem encMembers_dec : ∀ (ms : List (Bytes × CV)) (rest : Bytes) (fuel : Nat), OKMembers ms → needMembers ms ≤ fuel →
      members fuel ms.length (encodeMembers ms ++ rest) = .ok (toBVMembers ms) rest
    | [], rest, fuel, _, _ => by cases fuel <;> simp [members, encodeMembers, toBVMembers]
    | (k, x) :: ms, rest, fuel, h, hf => by
      have hf : 1 + max 1 (max (need x) (needMembers ms)) ≤ fuel := hf
      obtain ⟨g, rfl⟩ : ∃ g, fuel = g + 2 := ⟨fuel - 2, by omega⟩
      have ik := item_text g k (encode x ++ encodeMembers ms ++ rest) h.1.1 h.1.2
      have i1 := enc_dec x (encodeMembers ms ++ rest) (g + 1) h.2.1 (by omega)
      have i2 := encMembers_dec ms rest (g + 1) h.2.2 (by omega)
      simp only [encodeMembers, List.length_cons, members, List.append_assoc] at ik ⊢
      simp only [ik, i1, i2, toBVMembers]
end

end Cbor
end Model
end JV
