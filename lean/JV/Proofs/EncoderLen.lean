/-
  JV.Proofs.EncoderLen — the item-count bookkeeping accepts every event tree whose announced lengths are exact (`run_exact`); a
  container is run as begin, items, end (`run_container`), which is also how Props.C08 shows a wrong announcement refused.
-/
import JV.Model.EncoderLen
namespace JV
namespace Model
namespace EncoderLen

theorem run_append : ∀ (a b : List Ev) (st : List Frame), run st (a ++ b) = (match run st a with | .error e => .error e | .ok st' => run st' b)
  | [], b, st => by simp [run]
  | e :: a, b, st => by
    simp only [List.cons_append, run]
    cases h : step st e with
    | error x => simp
    | ok st' => simp [run_append a b st']

theorem run_container (b e : Ev) (es : List Ev) (f f' : Frame) (st : List Frame) (hb : step st b = .ok (f :: st))
    (he : step (f' :: st) e = closeTop (f' :: st)) (hl : run (f :: st) es = .ok (f' :: st)) :
    run st (b :: (es ++ [e])) = closeTop (f' :: st) := by
  simp only [run, hb]
  rw [run_append, hl]
  simp only [run, he]
  cases closeTop (f' :: st) <;> rfl

theorem closeTop_wrong (f : Frame) (st : List Frame) (n : Nat) (hd : f.declared = some n) (hne : n ≠ f.count) :
    closeTop (f :: st) = .error (if f.count < n then .tooFew else .tooMany) := by
  simp only [closeTop, hd]
  by_cases h : f.count < n
  · simp [h]
  · have h2 : f.count > n := by omega
    simp [h, h2]

mutual
  theorem run_exact : ∀ (t : Tree) (st : List Frame), Exact t → run st (events t) = .ok (endValue st)
    | .scalar, st, _ => by simp [events, run, step]
    | .arr d xs, st, h => by
      rw [events, run_container _ _ _ _ _ st rfl rfl (run_exact_list xs _ st h.2)]
      cases d with
      | none => rfl
      | some n => simp [closeTop, Frame.count, h.1 n rfl]
    | .obj d ms, st, h => by
      rw [events, run_container _ _ _ _ _ st rfl rfl (run_exact_members ms _ st h.2)]
      cases d with
      | none => rfl
      | some n => simp [closeTop, Frame.count, h.1 n rfl]
  theorem run_exact_list : ∀ (xs : List Tree) (f : Frame) (st : List Frame), ExactList xs →
      run (f :: st) (eventsList xs) = .ok ({ f with index := f.index + xs.length } :: st)
    | [], f, st, _ => by simp [eventsList, run]
    | x :: xs, f, st, h => by
      simp only [eventsList]
      rw [run_append, run_exact x (f :: st) h.1]
      simp only [endValue]
      rw [run_exact_list xs _ st h.2]
      simp [Nat.add_assoc, Nat.add_comm 1]
  theorem run_exact_members : ∀ (ms : List Tree) (f : Frame) (st : List Frame), ExactList ms →
      run (f :: st) (eventsMembers ms) = .ok ({ f with index := f.index + 2 * ms.length } :: st)
    | [], f, st, _ => by simp [eventsMembers, run]
    | x :: ms, f, st, h => by
      simp only [eventsMembers, run, step, endValue]
      rw [run_append, run_exact x _ h.1]
      simp only [endValue]
      rw [run_exact_members ms _ st h.2]
      simp only [List.length_cons]
      congr 3
      omega
end

end EncoderLen
end Model
end JV
