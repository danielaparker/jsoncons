/-
  JV.Proofs.JsonParserSoundStr — SOUNDNESS, strings. If the model, inside a string, goes on to accept, the reference's
  `parseChars` reads the same characters — PROVIDED the text is free of the two
  surrogate anomalies (`surrogateOK`): a `\uDC00`–`\uDFFF` escape that is not the second half of a pair (the model drops it,
  the reference gives the text no value) and a high-surrogate escape followed by a `\uXXXX` that is not a low surrogate (the
  model combines them).
-/
import JV.Proofs.JsonParserSoundCtx
namespace JV
namespace Model
namespace JsonParser
open Spec.Rfc8259 (parseChars parseString hex4 utf8Encode validUtf8 isWs)

theorem sOK_cons_eq (c : Nat) (cs : Bytes) (hc : c ≠ 92) : surrogateOK (c :: cs) = surrogateOK cs := by
  conv => lhs; unfold surrogateOK
  simp [hc]

theorem sOK_esc_eq (e : Nat) (r : Bytes) (he : e ≠ 117) : surrogateOK (92 :: e :: r) = surrogateOK r := by
  conv => lhs; unfold surrogateOK
  simp [he]

theorem sOK_unit {w d : Bytes} (hu : CharUnit w d) (tail : Bytes) : surrogateOK (w ++ tail) = surrogateOK tail := by
  cases hu with
  | plain c h34 h32 h92 => exact sOK_cons_eq c tail h92
  | simple e b h => exact sOK_esc_eq e tail (by intro e117; rw [e117] at h; cases h)
  | scalar a b c d u hx hhi hlo =>
    show surrogateOK (92 :: 117 :: a :: b :: c :: d :: tail) = _
    conv => lhs; unfold surrogateOK
    simp [hx, isLo, isHi, hhi, hlo]
  | pair a b c d u a2 b2 c2 d2 lo hx hy hhi hlo =>
    have hnlo : ¬ (0xDC00 ≤ u ∧ u ≤ 0xDFFF) := by omega
    show surrogateOK (92 :: 117 :: a :: b :: c :: d :: 92 :: 117 :: a2 :: b2 :: c2 :: d2 :: tail) = _
    conv => lhs; unfold surrogateOK
    simp [hx, hy, isLo, isHi, hhi, hlo, hnlo]

theorem sOK_u (a b c d u : Nat) (r1 : Bytes) (hx : hex4 [a, b, c, d] = some (u, []))
    (h : surrogateOK (92 :: 117 :: a :: b :: c :: d :: r1) = true) : isLo u = false := by
  unfold surrogateOK at h
  simp only [if_true, hx] at h
  cases hlo : isLo u with
  | false => rfl
  | true => simp [hlo] at h

theorem sOK_pair (a b c d u a2 b2 c2 d2 lo : Nat) (r3 : Bytes) (hx : hex4 [a, b, c, d] = some (u, []))
    (hhi : isHi u = true) (hy : hex4 [a2, b2, c2, d2] = some (lo, []))
    (h : surrogateOK (92 :: 117 :: a :: b :: c :: d :: 92 :: 117 :: a2 :: b2 :: c2 :: d2 :: r3) = true) : isLo lo = true := by
  have hlo := sOK_u a b c d u _ hx h
  unfold surrogateOK at h
  simp only [if_true, hx, hlo, hhi, hy, Bool.false_eq_true, if_false, Bool.and_eq_true] at h
  exact h.1

theorem sOK_drop_eq : ∀ (p r : Bytes), (∀ x ∈ p, x ≠ 92) → surrogateOK (p ++ r) = surrogateOK r
  | [], _, _ => rfl
  | c :: p, r, hp => by
    rw [List.cons_append, sOK_cons_eq c (p ++ r) (hp c (List.mem_cons_self))]
    exact sOK_drop_eq p r (fun x hx => hp x (List.mem_cons_of_mem _ hx))

theorem sOK_dropWs_eq : ∀ (s : Bytes), surrogateOK (dropWs s) = surrogateOK s
  | [] => rfl
  | c :: cs => by
    by_cases hw : isWs c = true
    · have h92 : c ≠ 92 := by have := (isWs_iff c).1 hw; omega
      rw [dropWs_cons_ws c cs hw, sOK_cons_eq c cs h92]; exact sOK_dropWs_eq cs
    · rw [dropWs_cons_other c cs hw]

/-- the two bytes `\u` occur nowhere in `cs` -/
def NoU (cs : Bytes) : Prop := ∀ pre post, cs ≠ pre ++ 92 :: 117 :: post

theorem NoU.tail {c : Nat} {cs : Bytes} (h : NoU (c :: cs)) : NoU cs := by
  intro pre post e; exact h (c :: pre) post (by rw [e]; rfl)

theorem NoU_suffix (p s : Bytes) (h : NoU (p ++ s)) : NoU s := by
  intro pre post e
  exact h (p ++ pre) post (by rw [e, List.append_assoc])

theorem sOK_of_noU : ∀ s : Bytes, NoU s → surrogateOK s = true
  | [], _ => rfl
  | c :: cs, hnu => by
    by_cases h92 : c = 92
    · subst h92
      cases cs with
      | nil => simp [surrogateOK]
      | cons e r =>
        have he : e ≠ 117 := by intro e'; subst e'; exact hnu [] r rfl
        rw [sOK_esc_eq e r he]
        exact sOK_of_noU r hnu.tail.tail
    · rw [sOK_cons_eq c cs h92]
      exact sOK_of_noU cs hnu.tail

/-- the string sub-states that expect a hex digit: `u1`–`u4` in a `\uXXXX` escape, `u5`–`u8` in the second escape of a pair -/
def hexState : SS → Bool
  | .u1 | .u2 | .u3 | .u4 | .u5 | .u6 | .u7 | .u8 => true
  | _ => false

theorem Acc.str_step {cfg : Cfg} {s : St} {c : Nat} {cs : Bytes} (h : Acc cfg s (c :: cs)) (hst : s.st = .string) :
    Acc cfg (stepString s c) cs := by
  have := h.step
  rwa [feedChar_string cfg s c hst h.err_none] at this

theorem hex_inv (cfg : Cfg) (s : St) (hst : s.st = .string) (hss : hexState s.ss = true) (t : Bytes) (h : Acc cfg s t) :
    ∃ a v t', t = a :: t' ∧ Spec.Rfc8259.hexVal a = some v := by
  cases t with
  | nil => exact absurd h (Acc.not_eof (by simp [finish1, hst, fail]))
  | cons a t' =>
    cases hv : Spec.Rfc8259.hexVal a with
    | some v => exact ⟨a, v, t', rfl, hv⟩
    | none =>
      refine absurd (h.str_step hst).err_none ?_
      cases hs : s.ss <;> simp [hexState, hs] at hss <;> simp [stepString, hs, hexStep, hexStep2, hexVal_eq, hv, fail]

/-- the sub-state after a hex digit that is not the last of its four -/
def nextHex : SS → SS
  | .u1 => .u2 | .u2 => .u3 | .u3 => .u4 | .u5 => .u6 | .u6 => .u7 | .u7 => .u8 | x => x

theorem hex_step_inv (cfg : Cfg) (s : St) (hst : s.st = .string)
    (hss : s.ss = .u1 ∨ s.ss = .u2 ∨ s.ss = .u3 ∨ s.ss = .u5 ∨ s.ss = .u6 ∨ s.ss = .u7) (t : Bytes) (h : Acc cfg s t) :
    ∃ a v t' s', t = a :: t' ∧ Spec.Rfc8259.hexVal a = some v ∧ Acc cfg s' t' ∧ s'.st = .string ∧ s'.ss = nextHex s.ss := by
  obtain ⟨a, v, t1, rfl, hv⟩ := hex_inv cfg s hst (by rcases hss with e | e | e | e | e | e <;> rw [e] <;> rfl) t h
  refine ⟨a, v, t1, stepString s a, rfl, hv, h.str_step hst, ?_, ?_⟩ <;>
    rcases hss with e | e | e | e | e | e <;> simp [stepString, e, hexStep, hexStep2, hexVal_eq, hv, hst, nextHex]

theorem hex4_inv (cfg : Cfg) (s : St) (hst : s.st = .string) (hss : s.ss = .u1 ∨ s.ss = .u5) (t : Bytes) (h : Acc cfg s t) :
    ∃ a b c d t' u, t = a :: b :: c :: d :: t' ∧ hex4 [a, b, c, d] = some (u, []) ∧ hex4 t = some (u, t') := by
  obtain ⟨a, va, t1, s1, rfl, ha, h1, hst1, hss1⟩ := hex_step_inv cfg s hst (by rcases hss with e | e <;> simp [e]) t h
  have hss1' : s1.ss = .u2 ∨ s1.ss = .u6 := by rcases hss with e | e <;> simp [hss1, e, nextHex]
  obtain ⟨b, vb, t2, s2, rfl, hb, h2, hst2, hss2⟩ := hex_step_inv cfg s1 hst1 (by rcases hss1' with e | e <;> simp [e]) t1 h1
  have hss2' : s2.ss = .u3 ∨ s2.ss = .u7 := by rcases hss1' with e | e <;> simp [hss2, e, nextHex]
  obtain ⟨c, vc, t3, s3, rfl, hc, h3, hst3, hss3⟩ := hex_step_inv cfg s2 hst2 (by rcases hss2' with e | e <;> simp [e]) t2 h2
  have hss3' : s3.ss = .u4 ∨ s3.ss = .u8 := by rcases hss2' with e | e <;> simp [hss3, e, nextHex]
  obtain ⟨d, vd, t4, rfl, hd⟩ := hex_inv cfg s3 hst3 (by rcases hss3' with e | e <;> rw [e] <;> rfl) t3 h3
  exact ⟨a, b, c, d, t4, ((va * 16 + vb) * 16 + vc) * 16 + vd, rfl, by simp [hex4, ha, hb, hc, hd],
    by simp [hex4, ha, hb, hc, hd]⟩

theorem pair_inv (cfg : Cfg) (s : St) (hst : s.st = .string) (hss : s.ss = .pair1) (t : Bytes) (h : Acc cfg s t) :
    ∃ r2, t = 92 :: 117 :: r2 ∧ Acc cfg { s with cp2 := 0, ss := .u5 } r2 := by
  cases t with
  | nil => exact absurd h (Acc.not_eof (by simp [finish1, hst, fail]))
  | cons c t1 =>
    have h1 := h.str_step hst
    by_cases h92 : c = 92
    · subst h92
      have e1 : stepString s 92 = { s with cp2 := 0, ss := .pair2 } := by simp [stepString, hss]
      rw [e1] at h1
      cases t1 with
      | nil => exact absurd h1 (Acc.not_eof (by simp [finish1, hst, fail]))
      | cons e t2 =>
        have h2 := h1.str_step (by simp [hst])
        by_cases h117 : e = 117
        · subst h117
          have e2 : stepString { s with cp2 := 0, ss := .pair2 } 117 = { s with cp2 := 0, ss := .u5 } := by simp [stepString]
          rw [e2] at h2
          exact ⟨t2, rfl, h2⟩
        · exact absurd h2.err_none (by simp [stepString, h117, fail])
    · exact absurd h1.err_none (by simp [stepString, hss, h92, fail])

theorem Acc.append {cfg : Cfg} {s : St} {w tail : Bytes} (h : Acc cfg s (w ++ tail)) : Acc cfg (feed cfg s w) tail := by
  unfold Acc at *
  rwa [feed_append] at h

theorem escape_u_inv (cfg : Cfg) (s : St) (hst : s.st = .string) (hss : s.ss = .escape) (r : Bytes)
    (hok : surrogateOK (92 :: 117 :: r) = true) (h : Acc cfg s (117 :: r)) :
    ∃ w d tail, CharUnit w d ∧ 92 :: 117 :: r = w ++ tail := by
  have he := h.err_none
  have h2 := h.str_step hst
  have hsU : stepString s 117 = { s with cp := 0, ss := .u1 } := by simp [stepString, hss]
  rw [hsU] at h2
  obtain ⟨a, b, c, d, r1, u, rfl, hx4, -⟩ := hex4_inv cfg _ (by exact hst) (Or.inl rfl) r h2
  have hnlo : ¬ (0xDC00 ≤ u ∧ u ≤ 0xDFFF) := by
    have := sOK_u a b c d u r1 hx4 hok
    simp only [isLo, Bool.and_eq_false_iff, decide_eq_false_iff_not] at this; omega
  by_cases hhi : 0xD800 ≤ u ∧ u ≤ 0xDBFF
  · have hP : Acc cfg { s with ss := .pair1, cp := u } r1 := by
      have h3 : Acc cfg _ r1 := Acc.append (w := [a, b, c, d]) h2
      rw [feed_u4 cfg _ a b c d u (by exact hst) rfl (by exact he) hx4] at h3
      simpa [hhi] using h3
    obtain ⟨r2, rfl, hQ⟩ := pair_inv cfg _ (by exact hst) rfl r1 hP
    obtain ⟨a2, b2, c2, d2, r3, lo, rfl, hy4, -⟩ := hex4_inv cfg _ (by exact hst) (Or.inr rfl) r2 hQ
    have hlo : 0xDC00 ≤ lo ∧ lo ≤ 0xDFFF := by
      simpa [isLo] using sOK_pair a b c d u a2 b2 c2 d2 lo r3 hx4 (by simpa [isHi] using hhi) hy4 hok
    exact ⟨_, _, r3, .pair a b c d u a2 b2 c2 d2 lo hx4 hy4 hhi hlo, rfl⟩
  · exact ⟨_, _, r1, .scalar a b c d u hx4 hhi hnlo, rfl⟩

/-- a text the model accepts inside a string, and that is free of the surrogate anomalies, begins with the closing quote or
    with a unit of the reference -/
theorem unit_inv (cfg : Cfg) (s : St) (hst : s.st = .string) (hss : s.ss = .text) (c : Nat) (cs : Bytes) (h34 : c ≠ 34)
    (hok : surrogateOK (c :: cs) = true) (h : Acc cfg s (c :: cs)) : ∃ w d tail, CharUnit w d ∧ c :: cs = w ++ tail := by
  have h1 := h.str_step hst
  by_cases h32 : c < 32
  · have := stepString_ctl s c hss h32
    rw [h1.err_none] at this; cases this
  by_cases h92 : c = 92
  case neg => exact ⟨_, _, cs, .plain c h34 h32 h92, rfl⟩
  subst h92
  rw [stepString_backslash s hss] at h1
  cases cs with
  | nil => exact absurd h1 (Acc.not_eof (by simp [finish1, hst, fail]))
  | cons e r =>
    by_cases h117 : e = 117
    · subst h117
      exact escape_u_inv cfg _ (by exact hst) rfl r hok h1
    · cases hse : simpleEsc e with
      | some b => exact ⟨_, _, r, .simple e b hse, rfl⟩
      | none => exact absurd (h1.str_step hst).err_none (by rw [stepString_bad_esc _ e rfl hse h117]; simp [fail])

theorem chars_inv (cfg : Cfg) : ∀ (fuel : Nat) (cs : Bytes) (s : St), cs.length < fuel → s.st = .string → s.ss = .text →
    surrogateOK cs = true → Acc cfg s cs →
    ∃ b rest, parseChars fuel cs = some (b, rest) ∧ validate (s.buf ++ b) = none ∧ surrogateOK rest = true ∧
      rest.length < cs.length
  | 0, _, _, hl, _, _, _, _ => absurd hl (Nat.not_lt_zero _)
  | fuel + 1, [], s, _, hst, _, _, h => absurd h (Acc.not_eof (by simp [finish1, hst, fail]))
  | fuel + 1, c :: cs, s, hl, hst, hss, hok, h => by
    by_cases h34 : c = 34
    · subst h34
      have h1 := h.str_step hst
      rw [stepString_quote s hss] at h1
      cases hv : validate s.buf with
      | some code => exact absurd h1.err_none (by simp [endString, hv, fail])
      | none =>
        exact ⟨[], cs, by simp [parseChars], by simpa using hv, by rw [← sOK_cons_eq 34 cs (by decide)]; exact hok, by simp⟩
    obtain ⟨w, d, tail, hu, e⟩ := unit_inv cfg s hst hss c cs h34 hok h
    rw [e] at h hok hl ⊢
    rw [sOK_unit hu tail] at hok
    rw [List.length_append] at hl ⊢
    have hw := hu.length_pos
    obtain ⟨h1, h2, -, h4, -, -, -⟩ := feed_unit cfg hu s hst hss h.err_none
    obtain ⟨b, rest, e1, e2, e3, e4⟩ := chars_inv cfg fuel tail (feed cfg s w) (by omega) h1 h2 hok h.append
    refine ⟨d ++ b, rest, by rw [parseChars_unit fuel hu tail, e1]; rfl, ?_, e3, by omega⟩
    rw [h4, List.append_assoc] at e2; exact e2

/-- a whole string from its opening quote, given the state the opening quote leads to -/
theorem string_inv (cfg : Cfg) (s : St) (hst : s.st = .string) (hss : s.ss = .text) (hbuf : s.buf = []) (cs : Bytes)
    (hok : surrogateOK cs = true) (h : Acc cfg s cs) :
    ∃ b rest, parseString (34 :: cs) = some (b, rest) ∧ surrogateOK rest = true ∧ rest.length < cs.length := by
  obtain ⟨b, rest, e1, e2, e3, e4⟩ := chars_inv cfg (cs.length + 1) cs s (Nat.lt_succ_self _) hst hss hok h
  have hv : validUtf8 b = true := (validate_iff b).1 (by simpa [hbuf] using e2)
  exact ⟨b, rest, by simp [parseString, e1, hv], e3, e4⟩

end JsonParser
end Model
end JV
