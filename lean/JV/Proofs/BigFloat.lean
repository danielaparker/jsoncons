/-
  JV.Proofs.BigFloat — the two round trips behind Props.C06's bigfloat theorems: the hexadecimal text the decoder renders for
  (mantissa, exponent) is parsed back to the same pair (`parse_render`), and the CBOR integer / bignum the encoder writes is read
  back by the mantissa reader (`readInt_writeInt`, `readMantissa_writeInt`, `readMantissa_bignum`).
-/
import JV.Model.BigFloat
import JV.Proofs.CborRoundtrip
namespace JV
namespace Model
namespace BigFloat
open Model.Cbor Spec.Cbor

theorem hexVal_hexDigit (d : Nat) (h : d < 16) : hexVal (hexDigit d) = some d := by
  unfold hexDigit hexVal
  by_cases h10 : d < 10
  · simp [h10]; omega
  · have h1 : ¬ (48 ≤ 55 + d ∧ 55 + d ≤ 57) := by omega
    have h2 : 65 ≤ 55 + d ∧ 55 + d ≤ 70 := by omega
    simp [h10, h1, h2]

def IsUpperHex (c : Nat) : Prop := (48 ≤ c ∧ c ≤ 57) ∨ (65 ≤ c ∧ c ≤ 70)

theorem hexDigit_upper (d : Nat) (h : d < 16) : IsUpperHex (hexDigit d) := by
  unfold hexDigit IsUpperHex
  by_cases h10 : d < 10
  · simp [h10]; omega
  · simp [h10]; omega

theorem toHex_ne_nil (n : Nat) : toHex n ≠ [] := by
  unfold toHex
  by_cases h : n < 16 <;> simp [h]

theorem toHex_upper : ∀ (n : Nat), ∀ c ∈ toHex n, IsUpperHex c := by
  intro n
  induction n using Nat.strongRecOn with
  | _ n ih =>
    intro c hc
    unfold toHex at hc
    by_cases h : n < 16
    · simp [h] at hc; subst hc; exact hexDigit_upper n h
    · simp [h] at hc
      cases hc with
      | inl h1 => exact ih (n / 16) (by omega) c h1
      | inr h1 => subst h1; exact hexDigit_upper _ (by omega)

theorem ofHexAcc_append : ∀ (xs ys : Bytes) (acc : Nat),
    ofHexAcc acc (xs ++ ys) = (ofHexAcc acc xs).bind (fun a => ofHexAcc a ys)
  | [], ys, acc => by simp [ofHexAcc]
  | c :: cs, ys, acc => by
    simp only [List.cons_append, ofHexAcc]
    cases hexVal c with
    | none => simp
    | some d => simp [ofHexAcc_append cs ys]

theorem ofHexAcc_toHex : ∀ (n : Nat), ofHexAcc 0 (toHex n) = some n := by
  intro n
  induction n using Nat.strongRecOn with
  | _ n ih =>
    unfold toHex
    by_cases h : n < 16
    · simp [h, ofHexAcc, hexVal_hexDigit n h]
    · simp only [h, dite_false]
      rw [ofHexAcc_append, ih (n / 16) (by omega)]
      simp [ofHexAcc, hexVal_hexDigit (n % 16) (by omega)]
      omega

theorem ofHex_toHex (n : Nat) : ofHex (toHex n) = some n := by
  unfold ofHex; simp [toHex_ne_nil, ofHexAcc_toHex]

theorem splitP_append (xs ys : Bytes) (h : ∀ c ∈ xs, IsUpperHex c) : splitP (xs ++ 112 :: ys) = (xs, some ys) := by
  induction xs with
  | nil => simp [splitP]
  | cons c cs ih =>
    have hc : IsUpperHex c := h c (by simp)
    have h1 : ¬ (c = 112 ∨ c = 80) := by unfold IsUpperHex at hc; omega
    have := ih (fun d hd => h d (by simp [hd]))
    simp [splitP, h1, this]

theorem parseExp_unsigned (c : Nat) (cs : Bytes) (h43 : c ≠ 43) (h45 : c ≠ 45) :
    parseExp (some (c :: cs)) = (ofHexAcc 0 (c :: cs)).map (fun n => (n : Int)) := by
  unfold parseExp
  split
  · rename_i h; cases h
  · rename_i h; cases h
  · rename_i ds h; injection h with h; injection h with h1 _; exact absurd h1 h43
  · rename_i ds h; injection h with h; injection h with h1 _; exact absurd h1 h45
  · rename_i ds _ _ _ _ h; injection h with h; subst h; rfl

theorem parseExp_render (e : Int) :
    parseExp (some ((if e < 0 then [45] else []) ++ toHex e.natAbs)) = some e := by
  by_cases he : e < 0
  · simp only [he, if_true, List.singleton_append]
    simp [parseExp, ofHex_toHex]; omega
  · simp only [he, if_false, List.nil_append]
    cases hx : toHex e.natAbs with
    | nil => exact absurd hx (toHex_ne_nil _)
    | cons c cs =>
      have hu : IsUpperHex c := toHex_upper e.natAbs c (by simp [hx])
      have h43 : c ≠ 43 := by unfold IsUpperHex at hu; omega
      have h45 : c ≠ 45 := by unfold IsUpperHex at hu; omega
      have hv := ofHexAcc_toHex e.natAbs
      rw [hx] at hv
      rw [parseExp_unsigned c cs h43 h45, hv]
      simp; omega

theorem signed_natAbs (m : Int) : signed (decide (m < 0)) m.natAbs = m := by
  unfold signed
  by_cases h : m < 0 <;> simp [h] <;> omega

theorem parse_render (m e : Int) : parse (render m e) = some (m, e) := by
  have hsplit : splitP (toHex m.natAbs ++ 112 :: ((if e < 0 then [45] else []) ++ toHex e.natAbs))
      = (toHex m.natAbs, some ((if e < 0 then [45] else []) ++ toHex e.natAbs)) :=
    splitP_append _ _ (toHex_upper _)
  -- the sign byte is what `parse` strips and hands to `signed`, whichever it is
  have key : ∀ neg : Bool, parse ((if neg then [45] else []) ++ [48, 120] ++ toHex m.natAbs ++ [112] ++
      (if e < 0 then [45] else []) ++ toHex e.natAbs) = some (signed neg m.natAbs, e) := by
    intro neg
    cases neg <;> simp [parse, hsplit, ofHex_toHex, parseExp_render]
  have := key (decide (m < 0))
  rw [signed_natAbs] at this
  simpa [render] using this

theorem beVal_append_single (xs : Bytes) (b : Nat) : beVal (xs ++ [b]) = beVal xs * 256 + b := by
  induction xs with
  | nil => simp [beVal]
  | cons x xs ih =>
    simp only [List.cons_append, beVal, ih, List.length_append, List.length_singleton]
    rw [Nat.pow_succ]
    rw [Nat.add_mul, Nat.mul_assoc]; omega

theorem beVal_beMag : ∀ (n : Nat), beVal (beMag n) = n := by
  intro n
  induction n using Nat.strongRecOn with
  | _ n ih =>
    unfold beMag
    by_cases h : n < 256
    · simp [h, beVal]
    · simp only [h, dite_false]
      rw [beVal_append_single, ih (n / 256) (by omega)]; omega

theorem writeInt_head (v : Int) (h : fitsInt64 v = true) (rest : Bytes) :
    ∃ ib tail n, writeInt v ++ rest = ib :: tail ∧ readArg (ib % 32) tail = some (n, rest) ∧
      ((ib / 32 = 0 ∧ v = n) ∨ (ib / 32 = 1 ∧ v = -1 - (n : Int))) := by
  have hb : -(2 ^ 63 : Int) ≤ v ∧ v < (2 ^ 63 : Int) := by simpa [fitsInt64] using h
  unfold writeInt
  by_cases hv : v ≥ 0
  · obtain ⟨ib, tail, h1, h2, _, h4⟩ := head_read 0 v.toNat (by omega) (by omega) rest
    exact ⟨ib, tail, _, by simp [hv, h1], h4, .inl ⟨h2, by omega⟩⟩
  · obtain ⟨ib, tail, h1, h2, _, h4⟩ := head_read 1 (-1 - v).toNat (by omega) (by omega) rest
    exact ⟨ib, tail, _, by simp [hv, h1], h4, .inr ⟨h2, by omega⟩⟩

theorem readInt_writeInt (v : Int) (h : fitsInt64 v = true) (rest : Bytes) : readInt (writeInt v ++ rest) = some (v, rest) := by
  obtain ⟨ib, tail, n, e, hr, ⟨hm, rfl⟩ | ⟨hm, rfl⟩⟩ := writeInt_head v h rest
  · simp [e, readInt, hm, hr]
  · simp [e, readInt, hm, hr]

/-- an integer item never starts with the bignum tags, so the mantissa reader falls through to the integer reader -/
theorem readMantissa_writeInt (v : Int) (h : fitsInt64 v = true) (rest : Bytes) :
    readMantissa (writeInt v ++ rest) = some (v, rest) := by
  have hr := readInt_writeInt v h rest
  obtain ⟨ib, tail, n, e, _, hm⟩ := writeInt_head v h rest
  rw [e] at hr ⊢
  unfold readMantissa
  split
  · rename_i h; injection h with h _; omega
  · rename_i h; injection h with h _; omega
  · exact hr

/-- a bignum: tag 2 carries the magnitude itself, tag 3 the magnitude of `-1 - m` -/
theorem readMantissa_tagged (neg : Bool) (mag : Nat) (hlen : (beMag mag).length < 2 ^ 64) (rest : Bytes) :
    readMantissa ((if neg then 0xc3 else 0xc2) :: (writeHead 2 (beMag mag).length ++ beMag mag) ++ rest) =
      some (if neg then -1 - (mag : Int) else mag, rest) := by
  obtain ⟨ib, tail, h1, h2, _, h4⟩ := head_read 2 (beMag mag).length (by omega) hlen (beMag mag ++ rest)
  have e : (writeHead 2 (beMag mag).length ++ beMag mag) ++ rest = ib :: tail := by rw [← h1, List.append_assoc]
  rw [List.cons_append, e]
  cases neg <;> simp [readMantissa, h2, h4, beVal_beMag]

theorem readMantissa_bignum (m : Int) (hlen : (beMag (if m ≥ 0 then m.toNat else (-1 - m).toNat)).length < 2 ^ 64) (rest : Bytes) :
    readMantissa (writeBignum m ++ rest) = some (m, rest) := by
  unfold writeBignum
  by_cases hm : m ≥ 0
  · simp only [hm, if_true] at hlen ⊢
    have := readMantissa_tagged false _ hlen rest
    simp only [Bool.false_eq_true, if_false] at this
    rw [this]
    simp
    omega
  · simp only [hm, if_false] at hlen ⊢
    have := readMantissa_tagged true _ hlen rest
    simp only [if_true] at this
    rw [this]
    simp
    omega

end BigFloat
end Model
end JV
