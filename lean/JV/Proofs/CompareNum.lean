/-
  JV.Proofs.CompareNum — `static_cast<double>(integer)` on the bits: the result is finite and non-negative for n < 2^64, exact and
  strictly increasing up to 2^53.
-/
import JV.Model.Compare
namespace JV
namespace Model
namespace Compare

theorem exp_lt_of_pow_le_of_lt {a b n : Nat} (h1 : 2 ^ a ≤ n) (h2 : n < 2 ^ b) : a < b := by
  apply Classical.byContradiction
  intro h
  have : 2 ^ b ≤ 2 ^ a := Nat.pow_le_pow_right (by omega) (by omega)
  omega

theorem ilog2From_spec : ∀ m n : Nat, 1 ≤ n → n < 2 ^ (m + 1) →
    2 ^ (ilog2From m n) ≤ n ∧ n < 2 ^ (ilog2From m n + 1) ∧ ilog2From m n ≤ m
  | 0, n, h1, h2 => by simp [ilog2From] at *; omega
  | m + 1, n, h1, h2 => by
    unfold ilog2From
    by_cases h : 2 ^ (m + 1) ≤ n
    · simp [h]; exact h2
    · simp only [h, if_false]
      have := ilog2From_spec m n h1 (by omega)
      omega

theorem ilog2_spec (n : Nat) (h1 : 1 ≤ n) (h2 : n < 2 ^ 64) : 2 ^ (ilog2 n) ≤ n ∧ n < 2 ^ (ilog2 n + 1) ∧ ilog2 n ≤ 63 :=
  ilog2From_spec 63 n h1 h2

/-- the exact range: n < 2^53 lands in the mantissa as it is -/
theorem natToDouble_small (n : Nat) (h1 : 1 ≤ n) (h2 : n < 2 ^ 53) :
    ilog2 n ≤ 52 ∧ natToDouble n = (1023 + ilog2 n) * 2 ^ 52 + (n - 2 ^ ilog2 n) * 2 ^ (52 - ilog2 n) := by
  have s := ilog2_spec n h1 (by omega)
  have hk : ilog2 n < 53 := exp_lt_of_pow_le_of_lt s.1 h2
  refine ⟨by omega, ?_⟩
  unfold natToDouble
  have : ¬ n = 0 := by omega
  have hk2 : ilog2 n ≤ 52 := by omega
  simp [this, hk2]

theorem frac_lt (k n : Nat) (hk : k ≤ 52) (h1 : 2 ^ k ≤ n) (h2 : n < 2 ^ (k + 1)) : (n - 2 ^ k) * 2 ^ (52 - k) < 2 ^ 52 := by
  have e : 2 ^ k * 2 ^ (52 - k) = 2 ^ 52 := by rw [← Nat.pow_add]; congr 1; omega
  have p : 0 < 2 ^ (52 - k) := Nat.pow_pos (by omega)
  have : n - 2 ^ k < 2 ^ k := by rw [Nat.pow_succ] at h2; omega
  calc (n - 2 ^ k) * 2 ^ (52 - k) < 2 ^ k * 2 ^ (52 - k) := Nat.mul_lt_mul_of_pos_right this p
    _ = 2 ^ 52 := e

theorem natToDouble_le (n : Nat) (h : n < 2 ^ 64) : natToDouble n ≤ 1087 * 2 ^ 52 := by
  by_cases h0 : n = 0
  · subst h0; simp [natToDouble]
  have h1 : 1 ≤ n := by omega
  have s := ilog2_spec n h1 h
  by_cases hs : n < 2 ^ 53
  · have t := natToDouble_small n h1 hs
    have f := frac_lt (ilog2 n) n t.1 s.1 s.2.1
    rw [t.2]
    generalize (n - 2 ^ ilog2 n) * 2 ^ (52 - ilog2 n) = fr at *
    omega
  · have hk : 52 < ilog2 n := by
      have : 2 ^ 53 ≤ n := by omega
      have := exp_lt_of_pow_le_of_lt this s.2.1
      omega
    unfold natToDouble
    have hk2 : ¬ ilog2 n ≤ 52 := by omega
    simp only [h0, hk2, if_false]
    have q : n / 2 ^ (ilog2 n - 52) < 2 ^ 53 := by
      rw [Nat.div_lt_iff_lt_mul (Nat.pow_pos (by omega))]
      rw [← Nat.pow_add]
      have : 53 + (ilog2 n - 52) = ilog2 n + 1 := by omega
      rw [this]; exact s.2.1
    generalize n / 2 ^ (ilog2 n - 52) = qq at *
    split <;> omega

theorem natToDouble_zero : natToDouble 0 = 0 := by simp [natToDouble]

theorem natToDouble_pos (n : Nat) (h1 : 1 ≤ n) (h : n < 2 ^ 64) : 0 < natToDouble n := by
  have s := ilog2_spec n h1 h
  unfold natToDouble
  have : ¬ n = 0 := by omega
  simp only [this, if_false]
  split <;> omega

theorem natToDouble_two53 : natToDouble (2 ^ 53) = 1076 * 2 ^ 52 := by decide

theorem natToDouble_strict (m n : Nat) (h : m < n) (hn : n ≤ 2 ^ 53) : natToDouble m < natToDouble n := by
  by_cases h0 : m = 0
  · subst h0; rw [natToDouble_zero]; exact natToDouble_pos n (by omega) (by omega)
  have m1 : 1 ≤ m := by omega
  have tm := natToDouble_small m m1 (by omega)
  have sm := ilog2_spec m m1 (by omega)
  have fm := frac_lt (ilog2 m) m tm.1 sm.1 sm.2.1
  by_cases hn2 : n = 2 ^ 53
  · subst hn2
    rw [natToDouble_two53, tm.2]
    generalize (m - 2 ^ ilog2 m) * 2 ^ (52 - ilog2 m) = fr at *
    omega
  have tn := natToDouble_small n (by omega) (by omega)
  have sn := ilog2_spec n (by omega) (by omega)
  rw [tm.2, tn.2]
  have kle : ilog2 m < ilog2 n + 1 := exp_lt_of_pow_le_of_lt sm.1 (by omega)
  by_cases ke : ilog2 m = ilog2 n
  · rw [ke] at sm ⊢
    have p : 0 < 2 ^ (52 - ilog2 n) := Nat.pow_pos (by omega)
    have : m - 2 ^ ilog2 n < n - 2 ^ ilog2 n := by omega
    have := Nat.mul_lt_mul_of_pos_right this p
    omega
  · generalize (m - 2 ^ ilog2 m) * 2 ^ (52 - ilog2 m) = fr at *
    generalize (n - 2 ^ ilog2 n) * 2 ^ (52 - ilog2 n) = fr2 at *
    omega

end Compare
end Model
end JV
