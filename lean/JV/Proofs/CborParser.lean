/-
  JV.Proofs.CborParser — the cbor_parser model (JV.Model.CborParser) against the RFC 8949 reference decoder (JV.Spec.Cbor):
  by induction on the fuel the five mutually recursive readers agree (`Agrees`) with the reference's `item` / `items` / `itemsIndef` /
  `members` / `membersIndef`. The model's side of each case is the equation of `item` for that major type (JV.Proofs.CborParserEquations),
  whose argument reader is already stated in terms of the reference's `readArg` (`readUint64_eq`); the reference's side is its `item`
  without a tag, by the form of the additional information (JV.Proofs.CborSpec).
-/
import JV.Proofs.CborParserEquations
import JV.Proofs.JsonParser
namespace JV.Model.CborParser
open JV Spec.Cbor

theorem badUtf8_eq (b : Bytes) : badUtf8 b = !Spec.Rfc8259.validUtf8 b := by
  have h := Model.JsonParser.validate_iff b
  unfold badUtf8
  cases hv : Model.JsonParser.validate b <;> cases hu : Spec.Rfc8259.validUtf8 b <;> simp_all

/-- failures that carry no claim about the RFC status of the input: outside the fragment, or an implementation limit -/
def Fail.lenient : Fail → Bool
  | .skip => true
  | .err .maxNestingDepthExceeded => true
  | .err .numberTooLarge => true
  | _ => false

/-- the model's outcome `m` is compatible with the reference's `r`, values compared through `conv` (table at `JV.Props.C07.cbor_parser_model_refines_spec`) -/
def Agrees {α β : Type} (conv : α → Option β) (m : Res α) (r : Spec.Cbor.Res β) : Prop :=
  match m, r with
  | .ok v rest, .ok w rest2 => conv v = some w ∧ rest = rest2
  | .ok v _, .unjudged => conv v = none
  | .ok _ _, .illformed => False
  | .fail f, .ok _ _ => f.lenient = true
  | .fail _, _ => True

theorem agrees_lenient {α β : Type} (conv : α → Option β) (f : Fail) (h : f.lenient = true) (r : Spec.Cbor.Res β) :
    Agrees conv (.fail f) r := by
  cases r <;> simp [Agrees, h]

/-- reading the chunks of an indefinite string has no lenient outcome: the reference's answer is the model's with the error forgotten -/
theorem chunks_spec (major : Nat) : ∀ (fuel : Nat) (s : Bytes),
    Spec.Cbor.readChunks major fuel s = match Model.CborParser.readChunks major fuel s with | .ok b r => .ok b r | .fail _ => .illformed := by
  intro fuel
  induction fuel with
  | zero => intro s; rfl
  | succ fuel ih =>
    intro s
    cases s with
    | nil => rfl
    | cons ib s =>
      simp only [readChunks, Spec.Cbor.readChunks, readSize, readUint64_eq, badUtf8_eq, ih]
      by_cases hff : ib = 255
      · simp [hff]
      · by_cases hm : ib / 32 = major
        · by_cases h31 : ib % 32 = 31
          · simp [hff, hm, h31]
          · by_cases h28 : 28 ≤ ib % 32
            · simp [hff, hm, h31, h28, readArg_reserved]
            · simp only [hff, hm, h31, h28, if_false, ne_eq, not_true_eq_false]
              cases readArg (ib % 32) s with
              | none => rfl
              | some p =>
                obtain ⟨n, s1⟩ := p
                by_cases hl : s1.length < n
                · simp [hl]
                · by_cases hu : major = 3 ∧ Spec.Rfc8259.validUtf8 (List.take n s1) = false
                  · simp [hl, hu]
                  · have hu2 : ¬ (major = 3 ∧ (!Spec.Rfc8259.validUtf8 (List.take n s1)) = true) := by simpa using hu
                    simp only [hl, hu, hu2, if_false]
                    cases readChunks major fuel (List.drop n s1) <;> rfl
        · simp [hff, hm]

theorem textKey_none_of_toBV_none (k : Item) (h : toBV textKey k = none) : textKey k = none := by
  cases k <;> simp_all [toBV, textKey]

theorem toBV_str (k : Item) (kb : Bytes) (tg : String) (h : toBV textKey k = some (.str kb tg)) : k = .str kb := by
  cases k <;> simp_all [toBV]
  all_goals (rename_i xs; cases hx : toBVList textKey xs <;> simp_all)

theorem textKey_none_of_not_str (k : Item) (w : BV) (h : toBV textKey k = some w) (hw : ∀ kb tg, w ≠ .str kb tg) : textKey k = none := by
  cases k <;> simp_all [toBV, textKey]
  rename_i s0
  exact hw s0 "" h.symm

theorem agrees_cons {x : Res Item} {y : Spec.Cbor.Res BV} (hx : Agrees (toBV textKey) x y)
    {xs : Bytes → Res (List Item)} {ys : Bytes → Spec.Cbor.Res (List BV)} (hxs : ∀ s1, Agrees (toBVList textKey) (xs s1) (ys s1)) :
    Agrees (toBVList textKey) (x.bind fun v s1 => (xs s1).map (v :: ·)) (y.thenCons ys) := by
  cases x with
  | fail f =>
    cases y with
    | ok w s1 => exact agrees_lenient _ f hx _
    | illformed => exact True.intro
    | unjudged => exact True.intro
  | ok v s1 =>
    cases y with
    | illformed => exact hx.elim
    | unjudged => cases h : xs s1 <;> simp [Res.bind, Res.map, h, Agrees, Spec.Cbor.Res.thenCons, toBVList, show toBV textKey v = none from hx]
    | ok w s2 =>
      obtain ⟨hv, rfl⟩ := hx
      have := hxs s1
      cases hm : xs s1 <;> cases hs : ys s1 <;>
        simp_all [Agrees, Res.bind, Res.map, Spec.Cbor.Res.thenCons, Spec.Cbor.Res.map, toBVList]

theorem member_tail {mrest : Res (List (Item × Item))} {rrest : Spec.Cbor.Res (List (Bytes × BV))}
    (kb : Bytes) (v : Item) (w : BV) (hv : toBV textKey v = some w) (h : Agrees (toBVMembers textKey) mrest rrest) :
    Agrees (toBVMembers textKey)
      (match mrest with | .ok ms rest => .ok ((Item.str kb, v) :: ms) rest | .fail f => .fail f)
      (match rrest with | .ok ms rest => .ok ((kb, w) :: ms) rest | r => r) := by
  cases mrest <;> cases rrest <;> simp only [Agrees] at h ⊢ <;> simp_all [toBVMembers, textKey]

theorem agrees_member {xk : Res Item} {yk : Spec.Cbor.Res BV} (hk : Agrees (toBV textKey) xk yk)
    {xv : Bytes → Res Item} {yv : Bytes → Spec.Cbor.Res BV} (hv : ∀ s1, Agrees (toBV textKey) (xv s1) (yv s1))
    {xms : Bytes → Res (List (Item × Item))} {yms : Bytes → Spec.Cbor.Res (List (Bytes × BV))}
    (hms : ∀ s2, Agrees (toBVMembers textKey) (xms s2) (yms s2)) :
    Agrees (toBVMembers textKey) (xk.bind fun k s1 => (xv s1).bind fun v s2 => (xms s2).map ((k, v) :: ·))
      (yk.thenMember yv yms) := by
  -- a key that is not a text string: the reference answers unjudged, so all that is owed is that the model's members have no image
  have not_text : ∀ k s1, textKey k = none →
      Agrees (toBVMembers textKey) ((xv s1).bind fun v s2 => (xms s2).map ((k, v) :: ·)) .unjudged := by
    intro k s1 hk
    cases xv s1 with
    | fail f => exact True.intro
    | ok v s2 => cases h : xms s2 <;> simp [Res.bind, Res.map, h, Agrees, toBVMembers, hk]
  cases xk with
  | fail f =>
    cases yk with
    | ok w s1 => exact agrees_lenient _ f hk _
    | illformed => exact True.intro
    | unjudged => exact True.intro
  | ok k s1 =>
    cases yk with
    | illformed => exact hk.elim
    | unjudged => exact not_text k s1 (textKey_none_of_toBV_none k hk)
    | ok w s1' =>
      obtain ⟨hkw, rfl⟩ := hk
      by_cases hstr : ∃ kb tg, w = .str kb tg
      · obtain ⟨kb, tg, rfl⟩ := hstr
        obtain rfl := toBV_str k kb tg hkw
        have h1 := hv s1
        simp only [Res.bind, Spec.Cbor.Res.thenMember]
        cases hxv : xv s1 with
        | fail f =>
          cases hyv : yv s1 with
          | ok w' s2 => rw [hxv, hyv] at h1; exact agrees_lenient _ f h1 _
          | illformed => exact True.intro
          | unjudged => exact True.intro
        | ok v s2 =>
          cases hyv : yv s1 with
          | illformed => rw [hxv, hyv] at h1; exact h1.elim
          | unjudged =>
            rw [hxv, hyv] at h1
            cases h : xms s2 <;> simp [h, Res.map, Agrees, toBVMembers, textKey, show toBV textKey v = none from h1]
          | ok w' s2' =>
            rw [hxv, hyv] at h1
            obtain ⟨hvw, rfl⟩ := h1
            have h2 := hms s2
            clear hv hms not_text   -- quantified hypotheses that `simp_all` would otherwise carry along, which is slow to check
            cases hm : xms s2 <;> cases hs : yms s2 <;>
              simp_all [Agrees, Res.map, Spec.Cbor.Res.map, toBVMembers, textKey]
      · have hk' := textKey_none_of_not_str k w hkw (fun kb tg e => hstr ⟨kb, tg, e⟩)
        have : (Spec.Cbor.Res.ok w s1).thenMember yv yms = .unjudged := by
          cases w <;> first | rfl | exact absurd ⟨_, _, rfl⟩ hstr
        rw [this]
        exact not_text k s1 hk'

section step
variable (maxD fuel : Nat)
variable (hI : ∀ d s, Agrees (toBV textKey) (item maxD fuel d s) (Spec.Cbor.item fuel none s))

include hI in
theorem items_step (hL : ∀ d n s, Agrees (toBVList textKey) (items maxD fuel d n s) (Spec.Cbor.items fuel n s)) :
    ∀ d n s, Agrees (toBVList textKey) (items maxD (fuel + 1) d n s) (Spec.Cbor.items (fuel + 1) n s) := by
  intro d n s
  cases n with
  | zero => rw [items_zero]; exact ⟨rfl, rfl⟩
  | succ n => rw [items_succ, spec_items_succ]; exact agrees_cons (hI d s) (hL d n)

include hI in
theorem itemsIndef_step (hL : ∀ d s, Agrees (toBVList textKey) (itemsIndef maxD fuel d s) (Spec.Cbor.itemsIndef fuel s)) :
    ∀ d s, Agrees (toBVList textKey) (itemsIndef maxD (fuel + 1) d s) (Spec.Cbor.itemsIndef (fuel + 1) s) := by
  intro d s
  cases s with
  | nil => exact True.intro
  | cons ib s =>
    rw [itemsIndef_cons, spec_itemsIndef_cons]
    by_cases hff : ib = 0xFF
    · rw [if_pos hff, if_pos hff]; exact ⟨rfl, rfl⟩
    · rw [if_neg hff, if_neg hff]; exact agrees_cons (hI d _) (hL d)

include hI in
theorem members_step (hL : ∀ d n s, Agrees (toBVMembers textKey) (members maxD fuel d n s) (Spec.Cbor.members fuel n s)) :
    ∀ d n s, Agrees (toBVMembers textKey) (members maxD (fuel + 1) d n s) (Spec.Cbor.members (fuel + 1) n s) := by
  intro d n s
  cases n with
  | zero => rw [members_zero]; exact ⟨rfl, rfl⟩
  | succ n => rw [members_succ, spec_members_succ]; exact agrees_member (hI d s) (hI d) (hL d n)

include hI in
theorem membersIndef_step (hL : ∀ d s, Agrees (toBVMembers textKey) (membersIndef maxD fuel d s) (Spec.Cbor.membersIndef fuel s)) :
    ∀ d s, Agrees (toBVMembers textKey) (membersIndef maxD (fuel + 1) d s) (Spec.Cbor.membersIndef (fuel + 1) s) := by
  intro d s
  cases s with
  | nil => exact True.intro
  | cons ib s =>
    rw [membersIndef_cons, spec_membersIndef_cons]
    by_cases hff : ib = 0xFF
    · rw [if_pos hff, if_pos hff]; exact ⟨rfl, rfl⟩
    · rw [if_neg hff, if_neg hff]; exact agrees_member (hI d _) (hI d) (hL d)

end step

theorem agrees_map {α β α' β' : Type} {cl : α → Option β} {c : α' → Option β'} {f : α → α'} {g : β → β'}
    (hfg : ∀ x, c (f x) = (cl x).map g) {m : Res α} {r : Spec.Cbor.Res β} (h : Agrees cl m r) :
    Agrees c (m.map f) (r.map g) := by
  cases m <;> cases r <;> simp_all [Agrees, Res.map, Spec.Cbor.Res.map]

theorem item_step (maxD fuel : Nat)
    (hL : ∀ d n s, Agrees (toBVList textKey) (items maxD fuel d n s) (Spec.Cbor.items fuel n s))
    (hLI : ∀ d s, Agrees (toBVList textKey) (itemsIndef maxD fuel d s) (Spec.Cbor.itemsIndef fuel s))
    (hM : ∀ d n s, Agrees (toBVMembers textKey) (members maxD fuel d n s) (Spec.Cbor.members fuel n s))
    (hMI : ∀ d s, Agrees (toBVMembers textKey) (membersIndef maxD fuel d s) (Spec.Cbor.membersIndef fuel s)) :
    ∀ d s, Agrees (toBV textKey) (item maxD (fuel + 1) d s) (Spec.Cbor.item (fuel + 1) none s) := by
  intro d s
  cases s with
  | nil => exact True.intro
  | cons ib s =>
    -- outside major 7 the additional information is reserved, indefinite, or selects an argument that is there or is cut short
    have hai : (28 ≤ ib % 32 ∧ ib % 32 ≤ 30) ∨ ib % 32 = 31 ∨
        (ib % 32 < 28 ∧ readArg (ib % 32) s = none) ∨ (ib % 32 < 28 ∧ ∃ n s1, readArg (ib % 32) s = some (n, s1)) := by
      rcases (by omega : (28 ≤ ib % 32 ∧ ib % 32 ≤ 30) ∨ ib % 32 = 31 ∨ ib % 32 < 28) with h | h | h
      · exact Or.inl h
      · exact Or.inr (Or.inl h)
      · cases hr : readArg (ib % 32) s with
        | none => exact Or.inr (Or.inr (Or.inl ⟨h, rfl⟩))
        | some p => exact Or.inr (Or.inr (Or.inr ⟨h, p.1, p.2, rfl⟩))
    rcases (by omega : ib / 32 = 0 ∨ ib / 32 = 1 ∨ ib / 32 = 2 ∨ ib / 32 = 3 ∨ ib / 32 = 4 ∨ ib / 32 = 5 ∨ ib / 32 = 7 ∨ (ib / 32 = 6 ∨ 8 ≤ ib / 32))
      with hm | hm | hm | hm | hm | hm | hm | hm
    · rw [item_uint maxD fuel d ib s hm]
      rcases hai with h | h | ⟨h, hr⟩ | ⟨h, n, s1, hr⟩
      · rw [spec_reserved fuel ib s none (by omega) h, readUint64_reserved ib s h.1]; exact True.intro
      · rw [spec_indef_other fuel ib s (by omega) h, readUint64_reserved ib s (by omega)]; exact True.intro
      · rw [spec_no_arg fuel ib s none (by omega) h hr, readUint64_no_arg ib s h hr]; exact True.intro
      · rw [spec_uint fuel ib s h hr hm, readUint64_arg ib s h hr]; exact ⟨rfl, rfl⟩
    · rw [item_nint maxD fuel d ib s hm, readInt64_cons]
      rcases hai with h | h | ⟨h, hr⟩ | ⟨h, n, s1, hr⟩
      · rw [spec_reserved fuel ib s none (by omega) h, readUint64_reserved ib s h.1]; exact True.intro
      · rw [spec_indef_other fuel ib s (by omega) h, readUint64_reserved ib s (by omega)]; exact True.intro
      · rw [spec_no_arg fuel ib s none (by omega) h hr, readUint64_no_arg ib s h hr]; exact True.intro
      · rw [spec_nint fuel ib s h hr hm, readUint64_arg ib s h hr]
        simp only [Res.bind]
        split
        · exact rfl
        · exact ⟨rfl, rfl⟩
    · rw [item_bytes maxD fuel d ib s hm, readString_eq, readSize]
      rcases hai with h | h | ⟨h, hr⟩ | ⟨h, n, s1, hr⟩
      · rw [spec_reserved fuel ib s none (by omega) h, if_neg (by omega), readUint64_reserved ib s h.1]; exact True.intro
      · rw [spec_indef_bytes fuel ib s hm h, if_pos h, chunks_spec]
        cases readChunks 2 fuel s
        · exact ⟨rfl, rfl⟩
        · exact True.intro
      · rw [spec_no_arg fuel ib s none (by omega) h hr, if_neg (by omega), readUint64_no_arg ib s h hr]; exact True.intro
      · rw [spec_bytes fuel ib s h hr hm, if_neg (by omega), readUint64_arg ib s h hr]
        simp only [Res.bind]
        split
        · exact True.intro
        · exact ⟨rfl, rfl⟩
    · rw [item_text maxD fuel d ib s hm, readString_eq, readSize]
      rcases hai with h | h | ⟨h, hr⟩ | ⟨h, n, s1, hr⟩
      · rw [spec_reserved fuel ib s none (by omega) h, if_neg (by omega), readUint64_reserved ib s h.1]; exact True.intro
      · rw [spec_indef_text fuel ib s hm h, if_pos h, chunks_spec]
        cases readChunks 3 fuel s with
        | fail f => exact True.intro
        | ok b r => cases hu : Spec.Rfc8259.validUtf8 b <;> simp [hu, Agrees, toBV, Res.bind, badUtf8_eq]
      · rw [spec_no_arg fuel ib s none (by omega) h hr, if_neg (by omega), readUint64_no_arg ib s h hr]; exact True.intro
      · rw [spec_text fuel ib s h hr hm, if_neg (by omega), readUint64_arg ib s h hr]
        by_cases hl : s1.length < n
        · simp [hl, Res.bind, Agrees]
        · cases hu : Spec.Rfc8259.validUtf8 (List.take n s1) <;> simp [hl, hu, Res.bind, Agrees, toBV, badUtf8_eq]
    · rw [item_array maxD fuel d ib s hm, readSize]
      by_cases hdep : d + 1 > maxD
      · rw [if_pos hdep]; exact agrees_lenient _ (.err .maxNestingDepthExceeded) rfl _
      · rw [if_neg hdep]
        rcases hai with h | h | ⟨h, hr⟩ | ⟨h, n, s1, hr⟩
        · rw [spec_reserved fuel ib s none (by omega) h, if_neg (by omega), readUint64_reserved ib s h.1]; exact True.intro
        · rw [spec_indef_array fuel ib s hm h, if_pos h]; exact agrees_map (fun _ => by rw [toBV]) (hLI (d + 1) s)
        · rw [spec_no_arg fuel ib s none (by omega) h hr, if_neg (by omega), readUint64_no_arg ib s h hr]; exact True.intro
        · rw [spec_array fuel ib s h hr hm, if_neg (by omega), readUint64_arg ib s h hr]
          exact agrees_map (fun _ => by rw [toBV]) (hL (d + 1) n s1)
    · rw [item_map maxD fuel d ib s hm, readSize]
      by_cases hdep : d + 1 > maxD
      · rw [if_pos hdep]; exact agrees_lenient _ (.err .maxNestingDepthExceeded) rfl _
      · rw [if_neg hdep]
        rcases hai with h | h | ⟨h, hr⟩ | ⟨h, n, s1, hr⟩
        · rw [spec_reserved fuel ib s none (by omega) h, if_neg (by omega), readUint64_reserved ib s h.1]; exact True.intro
        · rw [spec_indef_map fuel ib s hm h, if_pos h]; exact agrees_map (fun _ => by rw [toBV]) (hMI (d + 1) s)
        · rw [spec_no_arg fuel ib s none (by omega) h hr, if_neg (by omega), readUint64_no_arg ib s h hr]; exact True.intro
        · rw [spec_map fuel ib s h hr hm, if_neg (by omega), readUint64_arg ib s h hr]
          exact agrees_map (fun _ => by rw [toBV]) (hM (d + 1) n s1)
    · clear hL hLI hM hMI hai
      rw [item_simple maxD fuel d ib s hm]
      simp only [Spec.Cbor.item, hm, if_true]
      generalize hai : ib % 32 = ai
      rcases (by omega : ai = 20 ∨ ai = 21 ∨ ai = 22 ∨ ai = 23 ∨ ai = 25 ∨ ai = 26 ∨ ai = 27 ∨ (ai < 20 ∨ ai = 24 ∨ 28 ≤ ai))
        with rfl | rfl | rfl | rfl | rfl | rfl | rfl | h
      · exact ⟨rfl, rfl⟩
      · exact ⟨rfl, rfl⟩
      · exact ⟨rfl, rfl⟩
      · exact ⟨rfl, rfl⟩
      · rw [readUint64_eq, hai]
        cases readArg 25 s with
        | none => exact True.intro
        | some p => exact ⟨rfl, rfl⟩
      · rw [readDouble_cons ib s (Or.inl hai), readUint64_eq, hai]
        cases readArg 26 s with
        | none => exact True.intro
        | some p => exact ⟨rfl, rfl⟩
      · rw [readDouble_cons ib s (Or.inr hai), readUint64_eq, hai]
        cases readArg 27 s with
        | none => exact True.intro
        | some p => exact ⟨rfl, rfl⟩
      · have hn : ¬ ai = 20 ∧ ¬ ai = 21 ∧ ¬ ai = 22 ∧ ¬ ai = 23 ∧ ¬ ai = 25 ∧ ¬ ai = 26 ∧ ¬ ai = 27 := by omega
        simp only [hn, if_false, false_or]
        -- the model answers unknown_type, and none of the reference's branches here is a value: nothing is claimed
        (repeat' split) <;> exact True.intro
    · rw [item_skip maxD fuel d ib s hm]
      exact agrees_lenient _ .skip rfl _

theorem agree_all (maxD : Nat) : ∀ fuel : Nat,
    (∀ d s, Agrees (toBV textKey) (item maxD fuel d s) (Spec.Cbor.item fuel none s)) ∧
    (∀ d n s, Agrees (toBVList textKey) (items maxD fuel d n s) (Spec.Cbor.items fuel n s)) ∧
    (∀ d s, Agrees (toBVList textKey) (itemsIndef maxD fuel d s) (Spec.Cbor.itemsIndef fuel s)) ∧
    (∀ d n s, Agrees (toBVMembers textKey) (members maxD fuel d n s) (Spec.Cbor.members fuel n s)) ∧
    (∀ d s, Agrees (toBVMembers textKey) (membersIndef maxD fuel d s) (Spec.Cbor.membersIndef fuel s))
  | 0 => by
    refine ⟨?_, ?_, ?_, ?_, ?_⟩
    · intro d s; exact True.intro
    · intro d n s; cases n with
      | zero => exact ⟨rfl, rfl⟩
      | succ n => exact True.intro
    · intro d s; exact True.intro
    · intro d n s; cases n with
      | zero => exact ⟨rfl, rfl⟩
      | succ n => exact True.intro
    · intro d s; exact True.intro
  | fuel + 1 => by
    obtain ⟨hI, hL, hLI, hM, hMI⟩ := agree_all maxD fuel
    exact ⟨item_step maxD fuel hL hLI hM hMI, items_step maxD fuel hI hL, itemsIndef_step maxD fuel hI hLI,
      members_step maxD fuel hI hM, membersIndef_step maxD fuel hI hMI⟩

theorem decode_agrees (maxD : Nat) (bs : Bytes) : Agrees (toBV textKey) (decode maxD bs) (Spec.Cbor.decode bs) :=
  (agree_all maxD (2 * bs.length + 2)).1 0 bs

end JV.Model.CborParser
