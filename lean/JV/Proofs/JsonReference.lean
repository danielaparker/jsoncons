/-
  JV.Proofs.JsonReference — facts about the RFC 8259 reference parser alone (`Spec.Rfc8259`); none mentions the parser model, but
  those the parser proofs walk along are declared in their namespace `Model.JsonParser`. Its nesting limit is exact at every
  depth; `ws` without comments is `dropWs`; the equations of `skipWs`, `hex4`, `startsWith`; a string body as `parseChars` reads
  it is a sequence of units (`simpleEsc`, `CharUnit`, `parseChars_head`) up to the closing quote (`Chars`).
-/
import JV.Spec.Rfc8259
namespace JV
namespace Spec.Rfc8259

theorem skipWs_nonws (c : Bool) (n b : Nat) (s : Bytes) (h1 : isWs b = false) (h2 : b ≠ 47) :
    skipWs c (n + 1) (b :: s) = some (b :: s) := by
  simp [skipWs, h1, h2]

/-- the text `[[…[]…]]` with k+1 pairs of brackets, followed by `rest` -/
def nested : Nat → Bytes → Bytes
  | 0, rest => 91 :: 93 :: rest
  | k + 1, rest => 91 :: nested k (93 :: rest)

def nestV : Nat → JT
  | 0 => .arr []
  | k + 1 => .arr [nestV k]

theorem nested_head (k : Nat) (rest : Bytes) : ∃ tl, nested k rest = 91 :: tl := by
  cases k <;> simp [nested]

theorem nested_length : ∀ (k : Nat) (r : Bytes), (nested k r).length = 2 * k + 2 + r.length
  | 0, r => by simp only [nested, List.length_cons]; omega
  | k + 1, r => by simp only [nested, List.length_cons, nested_length k]; omega

theorem nested_arrays (fl : Flags) : ∀ (k depth fuel : Nat) (rest : Bytes), 2 * k + 1 ≤ fuel →
    parseValue fl fuel depth (nested k rest) = if depth + (k + 1) ≤ fl.maxDepth then some (nestV k, rest) else none
  | k, depth, f + 1, rest, hf => by
    -- the outermost `[` alone may exceed the limit
    by_cases hd : depth + 1 > fl.maxDepth
    · obtain ⟨tl, htl⟩ := nested_head k rest
      rw [htl, if_neg (by omega)]
      simp [parseValue, hd]
    match k, hf with
    | 0, _ =>
      rw [if_pos (by omega)]
      simp [nested, parseValue, hd, skipWs_nonws, nestV, isWs]
    | k + 1, hf =>
      obtain ⟨g, rfl⟩ : ∃ g, f = g + 1 := ⟨f - 1, by omega⟩
      obtain ⟨tl, htl⟩ := nested_head k (93 :: rest)
      have ih := nested_arrays fl k (depth + 1) g (93 :: rest) (by omega)
      rw [show depth + 1 + (k + 1) = depth + (k + 1 + 1) by omega] at ih
      simp only [nested, parseValue, show (91:Nat) ≠ 123 by decide, hd, if_false, if_true]
      rw [htl, skipWs_nonws fl.comments _ 91 tl rfl (by decide)]
      simp only [parseElems]
      rw [← htl, ih]
      by_cases hl : depth + (k + 1 + 1) ≤ fl.maxDepth
      · simp [hl, skipWs_nonws, nestV, isWs]
      · simp [hl]

theorem depth_limit_exact (fl : Flags) (k : Nat) :
    (parseText fl (nested k [])).isSome = decide (k + 1 ≤ fl.maxDepth) := by
  obtain ⟨tl, htl⟩ := nested_head k []
  unfold parseText
  rw [htl, skipWs_nonws fl.comments _ 91 tl rfl (by decide), ← htl]
  simp only []
  rw [nested_arrays fl k 0 _ [] (by rw [nested_length]; omega), Nat.zero_add]
  by_cases h : k + 1 ≤ fl.maxDepth
  · simp [h, skipWs]
  · simp [h]

end Spec.Rfc8259
end JV

namespace JV
namespace Model
namespace JsonParser
open Spec.Rfc8259 (JT Flags isWs skipWs skipLine skipBlock parseValue parseElems parseMembers parseText parseString startsWith parseChars hex4
  utf8Encode validUtf8)

theorem isWs_iff (c : Nat) : isWs c = true ↔ (c = 32 ∨ c = 9 ∨ c = 10 ∨ c = 13) := by
  simp [isWs, or_assoc]

def dropWs (s : Bytes) : Bytes := s.dropWhile isWs

theorem dropWs_cons_ws (c : Nat) (cs : Bytes) (hw : isWs c = true) : dropWs (c :: cs) = dropWs cs := by
  simp [dropWs, hw]

theorem dropWs_cons_other (c : Nat) (cs : Bytes) (hw : ¬ isWs c = true) : dropWs (c :: cs) = c :: cs := by
  simp [dropWs, hw]

theorem skipWs_eq : ∀ (n : Nat) (s : Bytes), s.length < n → skipWs false n s = some (dropWs s)
  | 0, _, h => by omega
  | n + 1, [], _ => by simp [skipWs, dropWs]
  | n + 1, c :: cs, h => by
    by_cases hw : isWs c = true
    · simp only [skipWs, hw, if_true, dropWs_cons_ws]
      exact skipWs_eq n cs (by simp at h; omega)
    · simp [skipWs, hw, dropWs_cons_other]

theorem dropWs_head : ∀ (s : Bytes) (c : Nat) (r : Bytes), dropWs s = c :: r → isWs c = false
  | [], c, r, h => by simp [dropWs] at h
  | d :: ds, c, r, h => by
    by_cases hw : isWs d = true
    · rw [dropWs_cons_ws d ds hw] at h; exact dropWs_head ds c r h
    · rw [dropWs_cons_other d ds hw] at h; cases h; simpa using hw

theorem dropWs_length (s : Bytes) : (dropWs s).length ≤ s.length := by
  unfold dropWs
  exact (List.dropWhile_sublist _).length_le

theorem dropWs_cons_lt {a b : Bytes} {c : Nat} (h : dropWs a = c :: b) : b.length < a.length :=
  Nat.lt_of_lt_of_le (by rw [h]; exact Nat.lt_succ_self _) (dropWs_length a)

theorem skipWs_dropWs (s : Bytes) : skipWs false (s.length + 1) s = some (dropWs s) := skipWs_eq _ _ (Nat.lt_succ_self _)

theorem skipWs_nil (cm : Bool) (n : Nat) : skipWs cm n [] = some [] := by
  cases n <;> simp [skipWs]

theorem skipWs_slash_other (n d : Nat) (ds : Bytes) (h47 : d ≠ 47) (h42 : d ≠ 42) :
    skipWs true (n + 1) (47 :: d :: ds) = some (47 :: d :: ds) := by
  have hws : isWs 47 = false := rfl
  simp only [skipWs, hws, Bool.true_and, decide_true, if_true, if_false, Bool.false_eq_true]
  split
  · rename_i heq; cases heq; exact absurd rfl h47
  · rename_i heq; cases heq; exact absurd rfl h42
  · rfl

/-- the second alternative is the fuel `n` running out -/
theorem skipWs_of_dropWs_nil (cm : Bool) : ∀ (n : Nat) (s : Bytes), dropWs s = [] → skipWs cm n s = some [] ∨ n ≤ s.length
  | 0, _, _ => Or.inr (Nat.zero_le _)
  | n + 1, [], _ => Or.inl (by simp [skipWs])
  | n + 1, c :: cs, h => by
    have hw : isWs c = true := by
      by_cases hw : isWs c = true
      · exact hw
      · simp [dropWs, hw] at h
    have h' : dropWs cs = [] := by simpa [dropWs, hw] using h
    rcases skipWs_of_dropWs_nil cm n cs h' with e | e
    · exact Or.inl (by simp [skipWs, hw, e])
    · exact Or.inr (by simp; omega)

/-! ### the reference's `ws` with comments -/

theorem skipLine_suffix : ∀ s : Bytes, skipLine s <:+ s
  | [] => List.suffix_refl _
  | c :: cs => by
    unfold skipLine
    split
    · exact List.suffix_refl _
    · exact (skipLine_suffix cs).trans (List.suffix_cons c cs)

theorem skipBlock_cons2 (a c : Nat) (cs : Bytes) :
    skipBlock (a :: c :: cs) = if a = 42 ∧ c = 47 then some cs else skipBlock (c :: cs) := by
  by_cases h : a = 42 ∧ c = 47
  · obtain ⟨rfl, rfl⟩ := h
    simp [skipBlock]
  · rw [if_neg h]
    rw [skipBlock]
    intro h1 h2
    exact h ⟨h1, h2⟩

theorem skipBlock_cons_ne (c : Nat) (cs : Bytes) (hc : c ≠ 42) : skipBlock (c :: cs) = skipBlock cs := by
  cases cs with
  | nil => rfl
  | cons d ds => rw [skipBlock_cons2, if_neg (fun e => hc e.1)]

theorem skipBlock_suffix : ∀ s r : Bytes, skipBlock s = some r → r <:+ s
  | [], _, h => by simp [skipBlock] at h
  | [_], _, h => by simp [skipBlock] at h
  | a :: c :: cs, r, h => by
    rw [skipBlock_cons2] at h
    by_cases hh : a = 42 ∧ c = 47
    · rw [if_pos hh] at h
      cases h
      exact (List.suffix_cons c _).trans (List.suffix_cons a _)
    · rw [if_neg hh] at h
      exact (skipBlock_suffix (c :: cs) r h).trans (List.suffix_cons a _)

/-- one step of `ws` with comments: it skips a white-space character, a line comment or a block comment, or else stops — at the end
    of the input or in front of a character that is neither white space nor the `/` of a comment -/
theorem skipWs_cases (n : Nat) (a : Bytes) :
    (∃ c cs, a = c :: cs ∧ isWs c = true ∧ skipWs true (n + 1) a = skipWs true n cs) ∨
    (∃ ds, a = 47 :: 47 :: ds ∧ skipWs true (n + 1) a = skipWs true n (skipLine ds)) ∨
    (∃ ds, a = 47 :: 42 :: ds ∧ skipWs true (n + 1) a = (skipBlock ds).bind (skipWs true n)) ∨
    (skipWs true (n + 1) a = some a ∧
      ∀ c r, a = c :: r → isWs c = false ∧ (c = 47 → ∀ d ds, r = d :: ds → d ≠ 47 ∧ d ≠ 42)) := by
  match a with
  | [] => exact .inr (.inr (.inr ⟨skipWs_nil true _, nofun⟩))
  | c :: cs =>
    by_cases hws : isWs c = true
    · exact .inl ⟨c, cs, rfl, hws, by simp [skipWs, hws]⟩
    have hws : isWs c = false := by simpa using hws
    by_cases h47 : c = 47
    case neg =>
      exact .inr (.inr (.inr ⟨Spec.Rfc8259.skipWs_nonws true n c cs hws h47, fun _ _ e => by cases e; exact ⟨hws, fun e => absurd e h47⟩⟩))
    subst h47
    match cs with
    | [] => exact .inr (.inr (.inr ⟨by simp [skipWs, hws], fun _ _ e => by cases e; exact ⟨hws, fun _ => nofun⟩⟩))
    | d :: ds =>
      by_cases hd47 : d = 47
      · exact .inr (.inl ⟨ds, by rw [hd47], by simp [skipWs, hws, hd47]⟩)
      by_cases hd42 : d = 42
      · refine .inr (.inr (.inl ⟨ds, by rw [hd42], ?_⟩))
        cases hb : skipBlock ds <;> simp [skipWs, hws, hd42, hb]
      · exact .inr (.inr (.inr ⟨skipWs_slash_other n d ds hd47 hd42,
          fun _ _ e => by cases e; exact ⟨hws, fun _ _ _ e => by cases e; exact ⟨hd47, hd42⟩⟩⟩))

theorem skipWs_isSuffix : ∀ (n : Nat) (a w : Bytes), skipWs true n a = some w → w <:+ a
  | 0, a, w, h => by
    rw [skipWs] at h
    cases h
    exact List.suffix_refl _
  | n + 1, a, w, h => by
    rcases skipWs_cases n a with ⟨c, cs, rfl, -, e⟩ | ⟨ds, rfl, e⟩ | ⟨ds, rfl, e⟩ | ⟨e, -⟩ <;> rw [e] at h
    · exact (skipWs_isSuffix n cs w h).trans (List.suffix_cons c cs)
    · exact ((skipWs_isSuffix n _ w h).trans (skipLine_suffix ds)).trans ((List.suffix_cons 47 ds).trans (List.suffix_cons 47 _))
    · cases hb : skipBlock ds with
      | none => rw [hb] at h; cases h
      | some r =>
        rw [hb] at h
        exact ((skipWs_isSuffix n r w h).trans (skipBlock_suffix ds r hb)).trans ((List.suffix_cons 42 ds).trans (List.suffix_cons 47 _))
    · cases h
      exact List.suffix_refl _

theorem startsWith_eq (p s r : Bytes) (h : startsWith p s = some r) : s = p ++ r := by
  unfold startsWith at h
  by_cases hp : p.isPrefixOf s = true
  · simp only [hp, if_true, Option.some.injEq] at h
    have := List.isPrefixOf_iff_prefix.1 hp
    obtain ⟨t, rfl⟩ := this
    simp at h; rw [h]
  · simp [hp] at h

theorem parseValue_nil (fl : Flags) (f d : Nat) : parseValue fl f d [] = none := by
  cases f <;> simp [parseValue]

theorem parseElems_nil (fl : Flags) (f d : Nat) : parseElems fl f d [] = none := by
  cases f <;> simp [parseElems, parseValue_nil]

theorem parseMembers_nil (fl : Flags) (f d : Nat) : parseMembers fl f d [] = none := by
  cases f <;> simp [parseMembers, parseString]

theorem parseText_of (fl : Flags) (hc : fl.comments = false) (bs s2 : Bytes) (v : JT)
    (hv : parseValue fl ((dropWs bs).length + 1) 0 (dropWs bs) = some (v, s2)) (hr : dropWs s2 = []) :
    parseText fl bs = some v := by
  simp only [parseText, hc, skipWs_dropWs, hv, hr]

/-- the reference consults its trailing-comma flag and its nesting limit only inside an array or an object -/
theorem parseText_flags (fl fl' : Flags) (hc : fl.comments = false) (hc' : fl'.comments = false) (bs : Bytes)
    (hroot : ∀ c r, dropWs bs = c :: r → c ≠ 91 ∧ c ≠ 123) : parseText fl bs = parseText fl' bs := by
  have hv : parseValue fl ((dropWs bs).length + 1) 0 (dropWs bs) = parseValue fl' ((dropWs bs).length + 1) 0 (dropWs bs) := by
    cases hd : dropWs bs with
    | nil => rw [parseValue_nil, parseValue_nil]
    | cons c cs =>
      obtain ⟨h91, h123⟩ := hroot c cs hd
      simp only [parseValue, h91, h123, if_false]
  unfold parseText
  rw [hc, hc', skipWs_dropWs]
  simp only [hv]

def simpleEsc (e : Nat) : Option Nat :=
  if e = 34 then some 34 else if e = 92 then some 92 else if e = 47 then some 47
  else if e = 98 then some 8 else if e = 102 then some 12 else if e = 110 then some 10
  else if e = 114 then some 13 else if e = 116 then some 9 else none

/-- the reference and the model both decode the character after a backslash by this chain of tests -/
theorem simpleEsc_elim {α : Type} (e : Nat) (F : Nat → α) (G : α) :
    (if e = 34 then F 34 else if e = 92 then F 92 else if e = 47 then F 47 else if e = 98 then F 8 else if e = 102 then F 12
     else if e = 110 then F 10 else if e = 114 then F 13 else if e = 116 then F 9 else G) =
    match simpleEsc e with
    | some b => F b
    | none => G := by
  unfold simpleEsc
  by_cases h34 : e = 34
  · subst h34; rfl
  by_cases h92 : e = 92
  · subst h92; rfl
  by_cases h47 : e = 47
  · subst h47; rfl
  by_cases h98 : e = 98
  · subst h98; rfl
  by_cases h102 : e = 102
  · subst h102; rfl
  by_cases h110 : e = 110
  · subst h110; rfl
  by_cases h114 : e = 114
  · subst h114; rfl
  by_cases h116 : e = 116
  · subst h116; rfl
  simp only [h34, h92, h47, h98, h102, h110, h114, h116, if_false]

theorem parseChars_escape (fuel e : Nat) (r : Bytes) : parseChars (fuel + 1) (92 :: e :: r) =
    match simpleEsc e with
    | some b => (parseChars fuel r).map fun p => (b :: p.1, p.2)
    | none => if e = 117 then parseChars (fuel + 1) (92 :: 117 :: r) else none := by
  refine Eq.trans ?_ (simpleEsc_elim e (fun b => (parseChars fuel r).map fun p => (b :: p.1, p.2)) _)
  simp only [parseChars]
  rfl

theorem parseChars_simple_esc (fuel e b : Nat) (r : Bytes) (h : simpleEsc e = some b) :
    parseChars (fuel + 1) (92 :: e :: r) = (parseChars fuel r).map fun p => (b :: p.1, p.2) := by
  rw [parseChars_escape, h]

theorem parseChars_bad_esc (fuel e : Nat) (r : Bytes) (h : simpleEsc e = none) (h117 : e ≠ 117) :
    parseChars (fuel + 1) (92 :: e :: r) = none := by
  rw [parseChars_escape, h]
  exact if_neg h117

theorem hex4_split (r : Bytes) (u : Nat) (r1 : Bytes) (h : hex4 r = some (u, r1)) :
    ∃ a b c d, r = a :: b :: c :: d :: r1 ∧ hex4 [a, b, c, d] = some (u, []) := by
  match r with
  | [] | [_] | [_, _] | [_, _, _] => cases h
  | a :: b :: c :: d :: rest =>
    simp only [hex4] at h ⊢
    split at h
    · rename_i ha hb hc hd
      obtain ⟨rfl, rfl⟩ := Prod.mk.inj (Option.some.inj h)
      exact ⟨a, b, c, d, rfl, by rw [ha, hb, hc, hd]⟩
    · cases h

theorem parseChars_u (fuel : Nat) (r : Bytes) : parseChars (fuel + 1) (92 :: 117 :: r) =
    match hex4 r with
    | none => none
    | some (u, r1) =>
      if 0xD800 ≤ u ∧ u ≤ 0xDBFF then
        match r1 with
        | 92 :: 117 :: r2 =>
          match hex4 r2 with
          | none => none
          | some (lo, r3) =>
            if 0xDC00 ≤ lo ∧ lo ≤ 0xDFFF then
              (parseChars fuel r3).map fun p => (utf8Encode (0x10000 + (u - 0xD800) * 1024 + (lo - 0xDC00)) ++ p.1, p.2)
            else none
        | _ => none
      else if 0xDC00 ≤ u ∧ u ≤ 0xDFFF then none
      else (parseChars fuel r1).map fun p => (utf8Encode u ++ p.1, p.2) := by
  simp [parseChars]; rfl

theorem hex4_cons {a b c d u : Nat} (h : hex4 [a, b, c, d] = some (u, [])) (rest : Bytes) :
    hex4 (a :: b :: c :: d :: rest) = some (u, rest) := by
  simp only [hex4] at h ⊢
  split at h
  · rw [(Prod.mk.inj (Option.some.inj h)).1]
  · cases h

/-- `CharUnit w d`: the text `w` is one unit of a string body and denotes the bytes `d` — a plain character, a simple escape,
    a `\uXXXX` escape of a scalar value, or a surrogate pair of two such escapes -/
inductive CharUnit : Bytes → Bytes → Prop
  | plain (c : Nat) (h34 : c ≠ 34) (h32 : ¬ c < 32) (h92 : c ≠ 92) : CharUnit [c] [c]
  | simple (e b : Nat) (h : simpleEsc e = some b) : CharUnit [92, e] [b]
  | scalar (a b c d u : Nat) (hx : hex4 [a, b, c, d] = some (u, [])) (hhi : ¬ (0xD800 ≤ u ∧ u ≤ 0xDBFF))
      (hlo : ¬ (0xDC00 ≤ u ∧ u ≤ 0xDFFF)) : CharUnit [92, 117, a, b, c, d] (utf8Encode u)
  | pair (a b c d u a2 b2 c2 d2 lo : Nat) (hx : hex4 [a, b, c, d] = some (u, [])) (hy : hex4 [a2, b2, c2, d2] = some (lo, []))
      (hhi : 0xD800 ≤ u ∧ u ≤ 0xDBFF) (hlo : 0xDC00 ≤ lo ∧ lo ≤ 0xDFFF) :
      CharUnit [92, 117, a, b, c, d, 92, 117, a2, b2, c2, d2] (utf8Encode (0x10000 + (u - 0xD800) * 1024 + (lo - 0xDC00)))

theorem CharUnit.length_pos {w d : Bytes} (hu : CharUnit w d) : 0 < w.length := by
  cases hu <;> exact Nat.succ_pos _

theorem parseChars_unit (fuel : Nat) {w d : Bytes} (hu : CharUnit w d) (tail : Bytes) :
    parseChars (fuel + 1) (w ++ tail) = (parseChars fuel tail).map fun p => (d ++ p.1, p.2) := by
  cases hu with
  | plain c h34 h32 h92 => simp [parseChars, h34, h32, h92]
  | simple e b h => exact parseChars_simple_esc fuel e b tail h
  | scalar a b c d u hx hhi hlo =>
    show parseChars (fuel + 1) (92 :: 117 :: a :: b :: c :: d :: tail) = _
    rw [parseChars_u, hex4_cons hx tail]
    simp only [hhi, hlo, if_false]
  | pair a b c d u a2 b2 c2 d2 lo hx hy hhi hlo =>
    show parseChars (fuel + 1) (92 :: 117 :: a :: b :: c :: d :: 92 :: 117 :: a2 :: b2 :: c2 :: d2 :: tail) = _
    rw [parseChars_u, hex4_cons hx _]
    simp only [hhi, and_self, if_true, hex4_cons hy tail, hlo]

/-- the one walk through the branches of `parseChars`: a text that does not begin with the closing quote begins with a unit,
    or is refused -/
theorem parseChars_head (c : Nat) (cs : Bytes) :
    c = 34 ∨ (∃ w d tail, CharUnit w d ∧ c :: cs = w ++ tail) ∨ ∀ fuel, parseChars (fuel + 1) (c :: cs) = none := by
  by_cases h34 : c = 34
  · exact .inl h34
  refine .inr ?_
  by_cases h32 : c < 32
  · exact .inr fun fuel => by simp [parseChars, h34, h32]
  by_cases h92 : c = 92
  case neg => exact .inl ⟨_, _, cs, .plain c h34 h32 h92, rfl⟩
  subst h92
  match cs with
  | [] => exact .inr fun fuel => by simp [parseChars]
  | e :: r =>
    cases hse : simpleEsc e with
    | some b => exact .inl ⟨_, _, r, .simple e b hse, rfl⟩
    | none =>
      by_cases h117 : e = 117
      case neg => exact .inr fun fuel => parseChars_bad_esc fuel e r hse h117
      subst h117
      cases hx : hex4 r with
      | none => exact .inr fun fuel => by rw [parseChars_u, hx]
      | some q =>
        obtain ⟨u, r1⟩ := q
        obtain ⟨a, b, c, d, rfl, hx4⟩ := hex4_split r u r1 hx
        by_cases hhi : 0xD800 ≤ u ∧ u ≤ 0xDBFF
        case neg =>
          by_cases hlo : 0xDC00 ≤ u ∧ u ≤ 0xDFFF
          · exact .inr fun fuel => by rw [parseChars_u, hx]; simp only [hhi, hlo, and_self, if_false, if_true]
          · exact .inl ⟨_, _, r1, .scalar a b c d u hx4 hhi hlo, rfl⟩
        match r1 with
        | [] | [_] => exact .inr fun fuel => by rw [parseChars_u, hx]; simp only [hhi, and_self, if_true]
        | x :: y :: r2 =>
          by_cases hxy : x = 92 ∧ y = 117
          case neg =>
            refine .inr fun fuel => ?_
            rw [parseChars_u, hx]
            simp only [hhi, and_self, if_true]
            split
            · rename_i heq; simp at heq; exact absurd ⟨heq.1, heq.2.1⟩ hxy
            · rfl
          obtain ⟨rfl, rfl⟩ := hxy
          cases hy : hex4 r2 with
          | none => exact .inr fun fuel => by rw [parseChars_u, hx]; simp only [hhi, and_self, if_true, hy]
          | some q2 =>
            obtain ⟨lo, r3⟩ := q2
            obtain ⟨a2, b2, c2, d2, rfl, hy4⟩ := hex4_split r2 lo r3 hy
            by_cases hlo : 0xDC00 ≤ lo ∧ lo ≤ 0xDFFF
            · exact .inl ⟨_, _, r3, .pair a b c d u a2 b2 c2 d2 lo hx4 hy4 hhi hlo, rfl⟩
            · exact .inr fun fuel => by rw [parseChars_u, hx]; simp only [hhi, and_self, if_true, hy, hlo, if_false]

/-- `Chars cs b rest`: `cs` is units denoting `b`, the closing quote, and `rest` — what `parseChars` accepts -/
inductive Chars : Bytes → Bytes → Bytes → Prop
  | quote (rest : Bytes) : Chars (34 :: rest) [] rest
  | unit {w d tail b rest : Bytes} (hu : CharUnit w d) (ht : Chars tail b rest) : Chars (w ++ tail) (d ++ b) rest

theorem parseChars_chars : ∀ (fuel : Nat) (cs b rest : Bytes), parseChars fuel cs = some (b, rest) → Chars cs b rest
  | 0, _, _, _, h => by simp [parseChars] at h
  | _ + 1, [], _, _, h => by simp [parseChars] at h
  | fuel + 1, c :: cs, b, rest, h => by
    rcases parseChars_head c cs with rfl | ⟨w, d, tail, hu, e⟩ | hnone
    · simp only [parseChars, if_true, Option.some.injEq, Prod.mk.injEq] at h
      obtain ⟨rfl, rfl⟩ := h
      exact .quote cs
    · rw [e] at h ⊢
      rw [parseChars_unit fuel hu tail] at h
      cases hp : parseChars fuel tail with
      | none => rw [hp] at h; cases h
      | some p =>
        rw [hp] at h
        obtain ⟨rfl, rfl⟩ := Prod.mk.inj (Option.some.inj h)
        exact .unit hu (parseChars_chars fuel tail p.1 p.2 hp)
    · rw [hnone fuel] at h; cases h

theorem parseString_inv (s b rest : Bytes) (h : parseString s = some (b, rest)) :
    ∃ cs, s = 34 :: cs ∧ parseChars (cs.length + 1) cs = some (b, rest) ∧ validUtf8 b = true := by
  unfold parseString at h
  split at h
  · rename_i cs
    refine ⟨cs, rfl, ?_⟩
    cases hp : parseChars (cs.length + 1) cs with
    | none => simp [hp] at h
    | some p =>
      obtain ⟨p1, p2⟩ := p
      simp only [hp] at h
      by_cases hv : validUtf8 p1 = true
      · simp only [hv, if_true, Option.some.injEq, Prod.mk.injEq] at h
        obtain ⟨rfl, rfl⟩ := h
        exact ⟨rfl, hv⟩
      · simp [hv] at h
  · simp at h

end JsonParser
end Model
end JV
