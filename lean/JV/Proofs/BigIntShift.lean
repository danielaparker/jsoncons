/-
  JV.Proofs.BigIntShift — `operator<<=` and `operator>>=` agree with multiplication / floor division by 2^k.
-/
import JV.Proofs.BigIntMul
namespace JV
namespace Model
namespace BigInt

theorem B_eq_pow : B = 2 ^ 64 := by decide

theorem B_split (k : Nat) (hk : k ≤ 64) : B = 2 ^ (64 - k) * 2 ^ k := by
  rw [← Nat.pow_add, Nat.sub_add_cancel hk]; exact B_eq_pow

theorem shl_arith (P Q x V pq Bv : Nat) (hB : Bv = Q * P) :
    (x % Q) * P + pq + Bv * (V * P + x / Q) = (x + Bv * V) * P + pq := by
  subst hB
  have := Nat.div_add_mod x Q
  generalize x / Q = d at *
  generalize x % Q = m at *
  subst this
  grind

theorem shl_mod (k x : Nat) (hk : k ≤ 64) : (x <<< k) % B = (x % 2 ^ (64 - k)) * 2 ^ k := by
  have := Nat.mul_mod_mul_right (2 ^ k) x (2 ^ (64 - k))
  rw [← B_split k hk] at this
  rw [Nat.shiftLeft_eq]
  exact this

/-- one word of the left shift: the two parts do not overlap, so `|` is `+` -/
theorem shlWord_eq (k x prev : Nat) (hk : k < 64) (hprev : prev < B) :
    ((x <<< k) % B) ||| ((prev >>> (64 - k)) &&& (2 ^ k - 1)) = (x % 2 ^ (64 - k)) * 2 ^ k + prev / 2 ^ (64 - k) := by
  have hB := B_split k (by omega)
  rw [Nat.shiftLeft_eq, Nat.shiftRight_eq_div_pow, Nat.and_two_pow_sub_one_eq_mod]
  have h1 : prev / 2 ^ (64 - k) < 2 ^ k := Nat.div_lt_of_lt_mul (by rw [← hB]; exact hprev)
  rw [Nat.mod_eq_of_lt h1]
  rw [← Nat.shiftLeft_eq, shl_mod k x (by omega), ← Nat.shiftLeft_eq, ← Nat.shiftLeft_add_eq_or_of_lt h1]

theorem shlBits_val (k : Nat) (hk : k < 64) : ∀ (xs : List Nat) (prev : Nat), prev < B → Words xs →
    val (shlBits k xs prev) = val xs * 2 ^ k + prev / 2 ^ (64 - k)
  | [], prev, hp, _ => by
    simp only [shlBits]
    rw [shlWord_eq k 0 prev hk hp, val_one]
    simp [val]
  | x :: xs, prev, hp, hw => by
    simp only [shlBits]
    rw [shlWord_eq k x prev hk hp]
    show _ + B * val (shlBits k xs x) = _
    rw [shlBits_val k hk xs x hw.head hw.tail]
    show _ = (x + B * val xs) * 2 ^ k + _
    exact shl_arith _ _ _ _ _ _ (B_split k (by omega))

theorem shlWords_val (k : Nat) (hk : k < 64) (xs : List Nat) (hw : Words xs) :
    val (shlWords k xs) = val xs * 2 ^ k := by
  cases xs with
  | nil => simp [shlWords, val]
  | cons x xs =>
    simp only [shlWords]
    show _ + B * val (shlBits k xs x) = (x + B * val xs) * 2 ^ k
    rw [shlBits_val k hk xs x hw.head hw.tail]
    rw [shl_mod k x (by omega)]
    have := shl_arith (2 ^ k) (2 ^ (64 - k)) x (val xs) 0 B (B_split k (by omega))
    simpa using this

theorem pow_split (k : Nat) : 2 ^ k = B ^ (k / 64) * 2 ^ (k % 64) := by
  rw [B_eq_pow, ← Nat.pow_mul, ← Nat.pow_add, Nat.div_add_mod]

theorem shlRaw_val (x : List Nat) (k : Nat) (hw : Words x) : val (shlRaw x k) = val x * 2 ^ k := by
  unfold shlRaw
  have hx1 : val (if k / 64 ≠ 0 then List.replicate (k / 64) 0 ++ x else x) = val x * B ^ (k / 64) ∧
      Words (if k / 64 ≠ 0 then List.replicate (k / 64) 0 ++ x else x) := by
    by_cases hq : k / 64 ≠ 0
    · rw [if_pos hq]
      refine ⟨by simp [val_append, val_replicate_zero, Nat.mul_comm], ?_⟩
      intro z hz
      rcases List.mem_append.1 hz with h | h
      · rw [(List.mem_replicate.1 h).2]; exact B_pos
      · exact hw z h
    · rw [if_neg hq]
      have : k / 64 = 0 := Classical.not_not.1 hq
      exact ⟨by simp [this], hw⟩
  simp only []
  by_cases hr : k % 64 ≠ 0
  · rw [if_pos hr, shlWords_val (k % 64) (Nat.mod_lt _ (by omega)) _ hx1.2, hx1.1, pow_split k, Nat.mul_assoc]
  · rw [if_neg hr, hx1.1, pow_split k]
    have : k % 64 = 0 := Classical.not_not.1 hr
    simp [this]

theorem shrWord_eq (k x x' : Nat) (hk : k < 64) (hx : x < B) :
    (x >>> k) ||| (((x' &&& (2 ^ k - 1)) <<< (64 - k)) % B) = x / 2 ^ k + (x' % 2 ^ k) * 2 ^ (64 - k) := by
  have hB := B_split k (by omega)
  rw [Nat.shiftRight_eq_div_pow, Nat.and_two_pow_sub_one_eq_mod]
  have h1 : x / 2 ^ k < 2 ^ (64 - k) := Nat.div_lt_of_lt_mul (by rw [Nat.mul_comm, ← hB]; exact hx)
  have h2 : (x' % 2 ^ k) <<< (64 - k) < B := by
    rw [Nat.shiftLeft_eq, hB, Nat.mul_comm]
    exact Nat.mul_lt_mul_of_pos_left (Nat.mod_lt _ (Nat.two_pow_pos k)) (Nat.two_pow_pos _)
  rw [Nat.mod_eq_of_lt h2, Nat.or_comm, ← Nat.shiftLeft_add_eq_or_of_lt h1, Nat.shiftLeft_eq, Nat.add_comm]

theorem shr_arith (P Q x x' R Bv : Nat) (hP : 0 < P) (hB : Bv = Q * P) :
    (x + Bv * (x' + Bv * R)) / P = x / P + (x' % P) * Q + Bv * ((x' + Bv * R) / P) := by
  subst hB
  have e1 : x + Q * P * (x' + Q * P * R) = x + P * (Q * (x' + Q * P * R)) := by grind
  rw [e1, Nat.add_mul_div_left _ _ hP]
  have e2 : x' + Q * P * R = x' + P * (Q * R) := by grind
  rw [e2, Nat.add_mul_div_left _ _ hP]
  have := Nat.div_add_mod x' P
  generalize x' / P = d at *
  generalize x' % P = m at *
  subst this
  grind

theorem shrBits_val (k : Nat) (hk : k < 64) : ∀ (xs : List Nat), Words xs → val (shrBits k xs) = val xs / 2 ^ k
  | [], _ => by simp [shrBits, val]
  | [x], _ => by simp [shrBits, val, Nat.shiftRight_eq_div_pow]
  | x :: x' :: xs, hw => by
    simp only [shrBits]
    rw [shrWord_eq k x x' hk hw.head]
    show _ + B * val (shrBits k (x' :: xs)) = (x + B * (x' + B * val xs)) / 2 ^ k
    rw [shrBits_val k hk (x' :: xs) hw.tail]
    show _ + B * ((x' + B * val xs) / 2 ^ k) = _
    exact (shr_arith (2 ^ k) (2 ^ (64 - k)) x x' (val xs) B (Nat.two_pow_pos k) (B_split k (by omega))).symm

theorem val_drop (q : Nat) : ∀ (x : List Nat), Words x → val (x.drop q) = val x / B ^ q := by
  induction q with
  | zero => intro x _; simp
  | succ q ih =>
    intro x hw
    cases x with
    | nil => simp [val]
    | cons a xs =>
      rw [List.drop_succ_cons, ih xs hw.tail, Nat.pow_succ]
      show _ = (a + B * val xs) / _
      rw [Nat.mul_comm (B ^ q) B, ← Nat.div_div_eq_div_mul, Nat.add_mul_div_left _ _ B_pos, Nat.div_eq_of_lt hw.head, Nat.zero_add]

theorem words_drop (q : Nat) {x : List Nat} (hw : Words x) : Words (x.drop q) :=
  fun z hz => hw z (List.mem_of_mem_drop hz)

end BigInt
end Model
end JV
