/-
  JV.Proofs.JMESPath — facts about the JMESPath reference semantics: pipes associate, `length`/`reverse`/`keys`/`values` agree on
  lengths, the reference's stable sort returns a sorted permutation, and ordered lists with the same members are equal (Props.C13
  uses that to compare the reference's slice indices with those of the implementation).
-/
import JV.Spec.JMESPath
namespace JV
namespace Spec
namespace JMESPath

theorem pipe_assoc (a b c : Expr) (v : JVal) : eval (.pipe (.pipe a b) c) v = eval (.pipe a (.pipe b c)) v := by
  simp only [eval]
  cases eval a v with
  | error e => rfl
  | ok x => cases eval b x <;> rfl

theorem length_reverse (xs : List JVal) :
    (applyFn .reverse [.arr xs]).bind (fun r => applyFn .length [r]) = applyFn .length [.arr xs] := by
  show Except.ok (JVal.int xs.reverse.length) = Except.ok (JVal.int xs.length)
  rw [List.length_reverse]

theorem keys_values_same_length (ms : List (Bytes × JVal)) :
    ∃ ks vs, applyFn .keys [.obj ms] = .ok (.arr ks) ∧ applyFn .values [.obj ms] = .ok (.arr vs) ∧ ks.length = vs.length :=
  ⟨_, _, rfl, rfl, by simp⟩

theorem insertFront_perm {α : Type} (le : α → α → Bool) (x : α) : ∀ l : List α, (stableSort.insertFront le x l).Perm (x :: l)
  | [] => List.Perm.refl _
  | y :: ys => by
    simp only [stableSort.insertFront]
    split
    · exact List.Perm.refl _
    · exact ((insertFront_perm le x ys).cons y).trans (List.Perm.swap x y ys)

theorem foldl_insertFront_perm {α : Type} (le : α → α → Bool) : ∀ (l acc : List α),
    (l.foldl (fun acc x => stableSort.insertFront le x acc) acc).Perm (l ++ acc)
  | [], acc => List.Perm.refl _
  | x :: l, acc => by
    simp only [List.foldl_cons]
    refine (foldl_insertFront_perm le l _).trans ?_
    refine ((insertFront_perm le x acc).append_left l).trans ?_
    exact List.perm_middle

theorem stableSort_perm {α : Type} (le : α → α → Bool) (l : List α) : (stableSort le l).Perm l := by
  unfold stableSort
  have := foldl_insertFront_perm le l.reverse []
  rw [List.append_nil] at this
  exact this.trans (List.reverse_perm l)

theorem insertFront_sorted {α : Type} (le : α → α → Bool) (tot : ∀ a b, le a b = true ∨ le b a = true)
    (tr : ∀ a b c, le a b = true → le b c = true → le a c = true) (x : α) :
    ∀ l : List α, l.Pairwise (fun a b => le a b = true) → (stableSort.insertFront le x l).Pairwise (fun a b => le a b = true)
  | [], _ => by simp [stableSort.insertFront]
  | y :: ys, h => by
    simp only [stableSort.insertFront]
    rw [List.pairwise_cons] at h
    split
    · rename_i hxy
      refine List.pairwise_cons.mpr ⟨?_, List.pairwise_cons.mpr h⟩
      intro z hz
      rcases List.mem_cons.mp hz with rfl | hz
      · exact hxy
      · exact tr _ _ _ hxy (h.1 z hz)
    · rename_i hxy
      have hyx : le y x = true := by
        rcases tot x y with h' | h'
        · exact absurd h' hxy
        · exact h'
      refine List.pairwise_cons.mpr ⟨?_, insertFront_sorted le tot tr x ys h.2⟩
      intro z hz
      have := (insertFront_perm le x ys).subset hz
      rcases List.mem_cons.mp this with rfl | hz'
      · exact hyx
      · exact h.1 z hz'

theorem stableSort_sorted {α : Type} (le : α → α → Bool) (tot : ∀ a b, le a b = true ∨ le b a = true)
    (tr : ∀ a b c, le a b = true → le b c = true → le a c = true) (l : List α) :
    (stableSort le l).Pairwise (fun a b => le a b = true) := by
  unfold stableSort
  generalize l.reverse = r
  suffices ∀ (r acc : List α), acc.Pairwise (fun a b => le a b = true) →
      (r.foldl (fun acc x => stableSort.insertFront le x acc) acc).Pairwise (fun a b => le a b = true) from this r [] List.Pairwise.nil
  intro r
  induction r with
  | nil => intro acc h; exact h
  | cons x r ih => intro acc h; exact ih _ (insertFront_sorted le tot tr x acc h)

theorem eq_of_pairwise_of_mem_iff {α : Type} {r : α → α → Prop} {l1 l2 : List α} (asymm : ∀ a b, r a b → r b a → False)
    (h1 : l1.Pairwise r) (h2 : l2.Pairwise r) (h : ∀ x, x ∈ l1 ↔ x ∈ l2) : l1 = l2 := by
  have ne : ∀ {a b}, r a b → a ≠ b := fun hab e => asymm _ _ hab (e ▸ hab)
  exact List.Perm.eq_of_pairwise (fun a b _ _ hab hba => (asymm a b hab hba).elim) h1 h2
    ((List.perm_ext_iff_of_nodup (h1.imp ne) (h2.imp ne)).2 h)

end JMESPath
end Spec
end JV
