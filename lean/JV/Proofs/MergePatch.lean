/-
  JV.Proofs.MergePatch — `erase` + `try_emplace` (what the code does) is `Target[Name] = Value` (what
  RFC 7386 says); hence `apply_merge_patch` computes the RFC function and keeps the representation invariant.
-/
import JV.Proofs.JValLemmas
import JV.Proofs.Dom
import JV.Model.MergePatch
import JV.Spec.Rfc7386
namespace JV
open Assoc Model Spec.Rfc7386

theorem wfMembers_assign {k : Bytes} {v : JVal} {ms : List (Bytes × JVal)} (hs : Sorted ms) (hv : v.WF)
    (hw : WFMembers ms) : WFMembers (assign k v ms) := by
  rw [assign_eq_insert k v hs]
  exact wfMembers_insertSorted hv (wfMembers_erase hw)

theorem applyMP_empty_eq (p : JVal) : applyMP false (.obj []) p = applyMP false .null p := by
  cases p <;> simp [applyMP]

mutual
  theorem applyMP_spec : ∀ (t p : JVal), t.WF → p.WF →
      applyMP false t p = mergePatch t p ∧ (applyMP false t p).WF
    | t, .obj pm, ht, hp => by
      -- code and RFC both start from the members of the target, or from none if it is not an object
      obtain ⟨tm, hs, hw, e1, e2⟩ : ∃ tm, Sorted tm ∧ WFMembers tm ∧
          applyMP false t (.obj pm) = .obj (applyMembers false tm pm) ∧
          mergePatch t (.obj pm) = .obj (mergeMembers tm pm) := by
        cases t with
        | obj tm => exact ⟨tm, ht.1, ht.2, by simp [applyMP], by simp [mergePatch]⟩
        | _ => exact ⟨[], trivial, trivial, by simp [applyMP], by simp [mergePatch]⟩
      have := applyMembers_spec pm tm hs hw hp.2
      rw [e1, e2, this.1]
      exact ⟨rfl, this.1 ▸ this.2⟩
    | t, .null, _, _ | t, .bool _, _, _ | t, .int _, _, _ | t, .str _, _, _ => by simp [applyMP, mergePatch, JVal.WF]
    | t, .arr xs, _, hp => by
      refine ⟨by simp [applyMP, mergePatch], ?_⟩
      simpa [applyMP] using hp
  termination_by structural _ p => p
  theorem applyMembers_spec : ∀ (pm tm : List (Bytes × JVal)), Sorted tm → WFMembers tm → WFMembers pm →
      applyMembers false tm pm = mergeMembers tm pm ∧
        Sorted (applyMembers false tm pm) ∧ WFMembers (applyMembers false tm pm)
    | [], tm, hs, hw, _ => by simp [applyMembers, mergeMembers, hs, hw]
    | (k, pv) :: pm, tm, hs, hw, hp => by
      by_cases hn : pv.isNull = true
      · -- a null member erases; the code skips the erase when the name is absent
        have ih := applyMembers_spec pm (erase k tm) (sorted_erase hs) (wfMembers_erase hw) hp.2
        cases hf : find k tm with
        | some item => simpa only [applyMembers, mergeMembers, hf, hn, if_true] using ih
        | none =>
          rw [erase_of_find_none hf] at ih
          simpa only [applyMembers, mergeMembers, hf, hn, if_true, erase_of_find_none hf] using ih
      · -- otherwise the old value (or nothing) is patched and assigned
        obtain ⟨old, hold, hstep⟩ : ∃ old : JVal, old.WF ∧
            applyMembers false tm ((k, pv) :: pm) =
              applyMembers false (assign k (applyMP false old pv) tm) pm ∧
            mergeMembers tm ((k, pv) :: pm) = mergeMembers (assign k (mergePatch old pv) tm) pm := by
          cases hf : find k tm with
          | some item =>
            refine ⟨item, wf_of_find hw hf, ?_, ?_⟩
            · simp only [applyMembers, hf, hn, Bool.false_eq_true, if_false, emplace_erase_eq_assign hs]
            · simp only [mergeMembers, hf, hn, Bool.false_eq_true, if_false, Option.getD_some]
          | none =>
            refine ⟨.null, trivial, ?_, ?_⟩
            · simp only [applyMembers, hf, hn, Bool.false_eq_true, if_false, applyMP_empty_eq]
              rw [← emplace_erase_eq_assign hs, erase_of_find_none hf]
            · simp only [mergeMembers, hf, hn, Bool.false_eq_true, if_false, Option.getD_none]
        have h1 := applyMP_spec old pv hold hp.1
        have ih := applyMembers_spec pm (assign k (applyMP false old pv) tm) (sorted_assign hs)
          (wfMembers_assign hs h1.2 hw) hp.2
        rw [hstep.1, hstep.2, ← h1.1]
        exact ih
  termination_by structural pm => pm
end

end JV
