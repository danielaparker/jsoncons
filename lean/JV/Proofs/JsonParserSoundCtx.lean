/-
  JV.Proofs.JsonParserSoundCtx — SOUNDNESS ("whatever the parser model accepts, the RFC 8259 reference
  reads as a value"): inversion lemmas for the single cells of the state machine in an arbitrary nesting context. Each says: if
  the machine, started in state `s` on the remaining input `a`, goes on to accept (`Acc`), then `a` begins the way the grammar
  demands at this point, because every other character, and the end of the input, lead to an error code.
-/
import JV.Proofs.JsonParserComplete
namespace JV
namespace Model
namespace JsonParser
open Spec.Rfc8259 (JT Flags parseValue parseText skipWs startsWith isWs)

def Acc (cfg : Cfg) (s : St) (a : Bytes) : Prop := accepted (finish (feed cfg s a)) = true

theorem Acc.err_none {cfg : Cfg} {s : St} {a : Bytes} (h : Acc cfg s a) : s.err = none := by
  cases he : s.err with
  | none => rfl
  | some e =>
    unfold Acc at h
    rw [feed_err cfg s a (by rw [he]; rfl)] at h
    simp [finish, accepted, he] at h

theorem Acc.step {cfg : Cfg} {s : St} {c : Nat} {cs : Bytes} (h : Acc cfg s (c :: cs)) : Acc cfg (feedChar cfg s c) cs := h

theorem Acc.not_eof {cfg : Cfg} {s : St} (h1 : (finish1 s).err.isSome = true) : ¬ Acc cfg s [] := by
  intro h
  have he := h.err_none
  unfold Acc at h
  rw [feed_nil, finish_eq s he] at h
  cases he1 : (finish1 s).err <;> simp_all [accepted]

theorem Acc.not_dead {cfg : Cfg} {s : St} {c : Nat} {cs : Bytes} (h1 : (feedChar cfg s c).err.isSome = true) :
    ¬ Acc cfg s (c :: cs) := by
  intro h
  rw [h.step.err_none] at h1; cases h1

theorem Acc.not_fail {cfg : Cfg} {s : St} {e : Nat} {a : Bytes} : ¬ Acc cfg (fail s e) a :=
  fun h => nomatch h.err_none

theorem Acc.ws {cfg : Cfg} {s : St} {a : Bytes} (h : Acc cfg s a) (hs : wsState s.st = true) : Acc cfg s (dropWs a) := by
  have he := h.err_none
  unfold Acc at *
  rw [← feed_dropWs cfg s hs he a]; exact h

theorem Acc.of_reach {cfg : Cfg} {s0 s1 : St} {a b : Bytes} {evs : List Ev} (h : Acc cfg s0 a) (R : Reach cfg s0 a s1 b evs) :
    Acc cfg s1 b := by
  unfold Acc at *
  rw [← R.1]; exact h

theorem Acc.tail_ws {cfg : Cfg} : ∀ {r : Bytes} {s : St}, Acc cfg s r → (s.st = .accept ∨ s.st = .done) → dropWs r = []
  | [], _, _, _ => rfl
  | c :: cs, s, h, hs => by
    have h1 := h.step
    rw [feedChar_after_root cfg s c hs h.err_none] at h1
    by_cases hw : isWs c = true
    · rw [if_pos hw] at h1
      rw [dropWs_cons_ws c cs hw]
      exact h1.tail_ws (Or.inr rfl)
    · rw [if_neg hw] at h1
      exact absurd h1 Acc.not_fail

theorem Acc.head {cfg : Cfg} {s : St} {c : Nat} {r : Bytes} (h : Acc cfg s (c :: r)) (hs : wsState s.st = true)
    (hw : isWs c = false) (h47 : c ≠ 47) :
    isCtl c = false ∧ spaceOrSlash s c = none ∧ Acc cfg (stepChar cfg s c).1 r := by
  have h1 := h.step
  rw [feedChar_of_consumed cfg s c h.err_none (stepChar_consumed_ws cfg s c hs)] at h1
  refine ⟨?_, spaceOrSlash_none s c hw h47, h1⟩
  cases hctl : isCtl c with
  | false => rfl
  | true =>
    have := h1.err_none
    rcases wsState_cases hs with hst | hst | hst | hst | hst | hst | hst <;> simp [stepChar, hst, hctl, fail] at this

theorem ws_not_eof (cfg : Cfg) (s : St) (hs : wsState s.st = true) : ¬ Acc cfg s [] := by
  apply Acc.not_eof
  rcases wsState_cases hs with hst | hst | hst | hst | hst | hst | hst <;> simp [finish1, hst, fail]

theorem slash_dead (cfg : Cfg) (s : St) (hs : wsState s.st = true) (r : Bytes)
    (hr : ∀ d ds, r = d :: ds → cfg.comments = false ∨ d ≠ 47 ∧ d ≠ 42) : ¬ Acc cfg s (47 :: r) := by
  intro h
  have he := h.err_none
  have h1 := h.step
  rw [feedChar_ws_slash cfg s hs he] at h1
  cases r with
  | nil => exact Acc.not_eof (by simp [finish1, slashOf, fail]) h1
  | cons d ds =>
    refine Acc.not_dead ?_ h1
    rcases hr d ds rfl with hcm | ⟨h47, h42⟩
    · by_cases h42 : d = 42
      · simp [feedChar, stepChar, slashOf, push, he, hcm, h42, fail]
      · by_cases h47 : d = 47 <;> simp [feedChar, stepChar, slashOf, push, he, hcm, h42, h47, fail]
    · simp [feedChar, stepChar, slashOf, push, he, h47, h42, fail]

theorem Acc.next {cfg : Cfg} {s : St} {t : Bytes} (h : Acc cfg s t) (hcm : cfg.comments = false) (hs : wsState s.st = true)
    (ht : ∀ c r, t = c :: r → isWs c = false) :
    ∃ c r, t = c :: r ∧ isCtl c = false ∧ spaceOrSlash s c = none ∧ Acc cfg (stepChar cfg s c).1 r := by
  cases t with
  | nil => exact absurd h (ws_not_eof cfg s hs)
  | cons c r =>
    have h47 : c ≠ 47 := by rintro rfl; exact slash_dead cfg s hs r (fun _ _ _ => .inl hcm) h
    exact ⟨c, r, rfl, h.head hs (ht c r rfl) h47⟩

theorem endArray_err (s : St) (hp : parent s ≠ .array) : (endArray s).err.isSome = true := by
  unfold endArray
  split
  · rfl
  · split
    · rename_i e; exact absurd e hp
    · rfl
    · rfl

theorem endObject_err (s : St) (hp : parent s ≠ .object) : (endObject s).err.isSome = true := by
  unfold endObject
  split
  · rfl
  · split
    · rename_i e; exact absurd e hp
    · rfl
    · rfl

theorem valueStart_some (cfg : Cfg) (s s' : St) (c : Nat) (h : valueStart cfg s c = some s') :
    c = 123 ∨ c = 91 ∨ c = 34 ∨ c = 116 ∨ c = 102 ∨ c = 110 ∨ ∃ ns0, numStart c = some ns0 := by
  unfold valueStart at h
  unfold numStart
  by_cases h1 : c = 123; · exact Or.inl h1
  by_cases h2 : c = 91; · exact Or.inr (Or.inl h2)
  by_cases h3 : c = 34; · exact Or.inr (Or.inr (Or.inl h3))
  by_cases h4 : c = 116; · exact Or.inr (Or.inr (Or.inr (Or.inl h4)))
  by_cases h5 : c = 102; · exact Or.inr (Or.inr (Or.inr (Or.inr (Or.inl h5))))
  by_cases h6 : c = 110; · exact Or.inr (Or.inr (Or.inr (Or.inr (Or.inr (Or.inl h6)))))
  refine Or.inr (Or.inr (Or.inr (Or.inr (Or.inr (Or.inr ?_)))))
  by_cases h7 : c = 45; · exact ⟨.minus, by simp [h7]⟩
  by_cases h8 : c = 48; · exact ⟨.zero, by simp [h8]⟩
  by_cases h9 : 49 ≤ c ∧ c ≤ 57; · exact ⟨.integer, by simp [h7, h8, h9]⟩
  simp [h1, h2, h3, h4, h5, h6, h7, h8, h9] at h

/-- in a state in which a value may start, a next character that is neither white space nor `/` starts a value (or is a `]`
    directly inside an array: the closing bracket of an empty array or, with `allow_trailing_comma`, after a comma) -/
theorem value_head_of_ne_slash (cfg : Cfg) (s0 : St) (hv : vState s0.st = true) (c : Nat) (cs : Bytes) (hw : isWs c = false) (h47 : c ≠ 47)
    (hne : ¬ (c = 93 ∧ parent s0 = .array)) (h : Acc cfg s0 (c :: cs)) :
    c = 123 ∨ c = 91 ∨ c = 34 ∨ c = 116 ∨ c = 102 ∨ c = 110 ∨ ∃ ns0, numStart c = some ns0 := by
  cases hvs : valueStart cfg s0 c with
  | some s' => exact valueStart_some cfg s0 s' c hvs
  | none =>
    exfalso
    obtain ⟨hctl, hsp, h1⟩ := h.head (vState_ws hv) hw h47
    have he1 := h1.err_none
    rcases vState_cases hv with hst | hst | hst <;>
      simp only [stepChar, hst, hctl, hsp, hvs, Bool.false_eq_true, if_false] at he1
    · (repeat' split at he1) <;> simp [fail] at he1
    · by_cases h93 : c = 93
      · have hpa : ¬ parent s0 = .array := fun e => hne ⟨h93, e⟩
        simp [h93, hpa, fail] at he1
      · simp only [h93, if_false] at he1
        split at he1 <;> simp [fail] at he1
    · by_cases h93 : c = 93
      · have := endArray_err s0 (fun e => hne ⟨h93, e⟩)
        simp only [h93, if_true] at he1
        rw [he1] at this; cases this
      · simp only [h93, if_false] at he1
        split at he1 <;> simp [fail] at he1

theorem value_head (cfg : Cfg) (hcm : cfg.comments = false) (s0 : St) (hv : vState s0.st = true) (c : Nat) (cs : Bytes)
    (hw : isWs c = false) (hne : ¬ (c = 93 ∧ parent s0 = .array)) (h : Acc cfg s0 (c :: cs)) :
    c = 123 ∨ c = 91 ∨ c = 34 ∨ c = 116 ∨ c = 102 ∨ c = 110 ∨ ∃ ns0, numStart c = some ns0 :=
  value_head_of_ne_slash cfg s0 hv c cs hw (by rintro rfl; exact slash_dead cfg s0 (vState_ws hv) cs (fun _ _ _ => .inl hcm) h) hne h

theorem trailing_rbracket_dead (cfg : Cfg) (htc : ¬ cfg.trailingComma = true) (s : St) (hs : s.st = .expectValue) (he : s.err = none) :
    (feedChar cfg s 93).err.isSome = true := by
  simp [feedChar, he, stepChar, hs, isCtl, spaceOrSlash, valueStart, htc, fail]
  split <;> rfl

theorem depth_inv (cfg : Cfg) (s0 : St) (hv : vState s0.st = true) (c : Nat) (hc : c = 91 ∨ c = 123) (cs : Bytes)
    (h : Acc cfg s0 (c :: cs)) : ¬ s0.level + 1 > cfg.maxDepth := by
  intro hd
  have he := h.err_none
  refine Acc.not_dead ?_ h
  rcases hc with rfl | rfl
  · rw [feedChar_value cfg s0 (beginArray cfg s0) 91 hv he (by simp [valueStart])]
    simp [beginArray, hd, fail]
  · rw [feedChar_value cfg s0 (beginObject cfg s0) 123 hv he (by simp [valueStart])]
    simp [beginObject, hd, fail]

theorem after_value_inv (cfg : Cfg) (hcm : cfg.comments = false) (s : St) (hs : s.st = .expectCommaOrEnd)
    (t : Bytes) (ht : ∀ c r, t = c :: r → isWs c = false) (h : Acc cfg s t) :
    (∃ r, t = 44 :: r) ∨ (∃ r, t = 93 :: r ∧ parent s = .array) ∨ (∃ r, t = 125 :: r ∧ parent s = .object) := by
  obtain ⟨c, r, rfl, hctl, hsp, h1⟩ := h.next hcm (by rw [hs]; rfl) ht
  have he1 := h1.err_none
  simp only [stepChar, hs, hctl, hsp, Bool.false_eq_true, if_false] at he1
  by_cases h125 : c = 125
  · subst h125
    refine Or.inr (Or.inr ⟨r, rfl, Classical.byContradiction fun hp => ?_⟩)
    have := endObject_err s hp
    simp only [if_true] at he1
    rw [he1] at this; cases this
  by_cases h93 : c = 93
  · subst h93
    refine Or.inr (Or.inl ⟨r, rfl, Classical.byContradiction fun hp => ?_⟩)
    have := endArray_err s hp
    simp only [h125, if_false, if_true] at he1
    rw [he1] at this; cases this
  by_cases h44 : c = 44
  · subst h44; exact Or.inl ⟨r, rfl⟩
  simp only [h125, h93, h44, if_false] at he1
  split at he1 <;> simp [fail] at he1

theorem colon_inv (cfg : Cfg) (hcm : cfg.comments = false) (s : St) (hs : s.st = .expectColon)
    (t : Bytes) (ht : ∀ c r, t = c :: r → isWs c = false) (h : Acc cfg s t) : ∃ r, t = 58 :: r := by
  obtain ⟨c, r, rfl, hctl, hsp, h1⟩ := h.next hcm (by rw [hs]; rfl) ht
  have he1 := h1.err_none
  simp only [stepChar, hs, hctl, hsp, Bool.false_eq_true, if_false] at he1
  by_cases h58 : c = 58
  · subst h58; exact ⟨r, rfl⟩
  · simp [h58, fail] at he1

theorem key_inv (cfg : Cfg) (hcm : cfg.comments = false) (s : St)
    (hs : s.st = .expectMemberNameOrEnd ∨ s.st = .expectMemberName)
    (t : Bytes) (ht : ∀ c r, t = c :: r → isWs c = false) (h : Acc cfg s t) :
    (∃ r, t = 34 :: r) ∨ ((s.st = .expectMemberNameOrEnd ∨ cfg.trailingComma = true) ∧ ∃ r, t = 125 :: r) := by
  obtain ⟨c, r, rfl, hctl, hsp, h1⟩ := h.next hcm (by rcases hs with hs | hs <;> rw [hs] <;> rfl) ht
  have he1 := h1.err_none
  by_cases h34 : c = 34
  · subst h34; exact Or.inl ⟨r, rfl⟩
  by_cases h125 : c = 125
  · subst h125
    refine Or.inr ⟨?_, r, rfl⟩
    rcases hs with hs | hs
    · exact Or.inl hs
    · refine Or.inr (Classical.byContradiction fun htc => ?_)
      simp [stepChar, hs, hctl, hsp, htc, fail] at he1
  · exfalso
    rcases hs with hs | hs <;> simp only [stepChar, hs, hctl, hsp, h34, h125, Bool.false_eq_true, if_false] at he1 <;>
      split at he1 <;> simp [fail] at he1

theorem Acc.expect {cfg : Cfg} {s s' : St} {want : Nat} {t : Bytes} (h : Acc cfg s t)
    (hstep : ∀ c, stepChar cfg s c = (if c = want then s' else fail s eInvalidValue, true))
    (hfin : (finish1 s).err.isSome = true) : ∃ r, t = want :: r ∧ Acc cfg s' r := by
  cases t with
  | nil => exact absurd h (Acc.not_eof hfin)
  | cons c r =>
    have h1 := h.step
    rw [feedChar_of_consumed cfg s c h.err_none (by rw [hstep]), hstep] at h1
    by_cases hc : c = want
    · subst hc; exact ⟨r, rfl, by simpa using h1⟩
    · simp only [hc, if_false] at h1; exact absurd h1 Acc.not_fail

theorem true_inv (cfg : Cfg) (s0 : St) (hv : vState s0.st = true) (cs : Bytes) (h : Acc cfg s0 (116 :: cs)) :
    ∃ r, cs = 114 :: 117 :: 101 :: r := by
  have h0 := h.step
  rw [feedChar_value cfg s0 { s0 with st := .t } 116 hv h.err_none (by simp [valueStart])] at h0
  obtain ⟨r1, rfl, h1⟩ := h0.expect (want := 114) (s' := { s0 with st := .tr }) (fun c => by simp [stepChar, lit]) (by simp [finish1, fail])
  obtain ⟨r2, rfl, h2⟩ := h1.expect (want := 117) (s' := { s0 with st := .tru }) (fun c => by simp [stepChar, lit]) (by simp [finish1, fail])
  obtain ⟨r3, rfl, _⟩ := h2.expect (want := 101) (s' := afterLiteral (emit { s0 with st := .tru } (.bool true)))
    (fun c => by simp [stepChar]) (by simp [finish1, fail])
  exact ⟨r3, rfl⟩

theorem false_inv (cfg : Cfg) (s0 : St) (hv : vState s0.st = true) (cs : Bytes) (h : Acc cfg s0 (102 :: cs)) :
    ∃ r, cs = 97 :: 108 :: 115 :: 101 :: r := by
  have h0 := h.step
  rw [feedChar_value cfg s0 { s0 with st := .f } 102 hv h.err_none (by simp [valueStart])] at h0
  obtain ⟨r1, rfl, h1⟩ := h0.expect (want := 97) (s' := { s0 with st := .fa }) (fun c => by simp [stepChar, lit]) (by simp [finish1, fail])
  obtain ⟨r2, rfl, h2⟩ := h1.expect (want := 108) (s' := { s0 with st := .fal }) (fun c => by simp [stepChar, lit]) (by simp [finish1, fail])
  obtain ⟨r3, rfl, h3⟩ := h2.expect (want := 115) (s' := { s0 with st := .fals }) (fun c => by simp [stepChar, lit]) (by simp [finish1, fail])
  obtain ⟨r4, rfl, _⟩ := h3.expect (want := 101) (s' := afterLiteral (emit { s0 with st := .fals } (.bool false)))
    (fun c => by simp [stepChar]) (by simp [finish1, fail])
  exact ⟨r4, rfl⟩

theorem null_inv (cfg : Cfg) (s0 : St) (hv : vState s0.st = true) (cs : Bytes) (h : Acc cfg s0 (110 :: cs)) :
    ∃ r, cs = 117 :: 108 :: 108 :: r := by
  have h0 := h.step
  rw [feedChar_value cfg s0 { s0 with st := .n } 110 hv h.err_none (by simp [valueStart])] at h0
  obtain ⟨r1, rfl, h1⟩ := h0.expect (want := 117) (s' := { s0 with st := .nu }) (fun c => by simp [stepChar, lit]) (by simp [finish1, fail])
  obtain ⟨r2, rfl, h2⟩ := h1.expect (want := 108) (s' := { s0 with st := .nul }) (fun c => by simp [stepChar, lit]) (by simp [finish1, fail])
  obtain ⟨r3, rfl, _⟩ := h2.expect (want := 108) (s' := afterLiteral (emit { s0 with st := .nul } .null))
    (fun c => by simp [stepChar]) (by simp [finish1, fail])
  exact ⟨r3, rfl⟩

theorem parseNumber_no92 (s lit r : Bytes) (hp : Spec.Rfc8259.parseNumber s = some (lit, r)) : ∀ x ∈ lit, x ≠ 92 := by
  intro x hx
  have := Spec.Rfc8259.parseNumber_chars s lit r hp x hx
  simp only [Spec.Rfc8259.NumCh, Spec.Rfc8259.isDigit, Bool.and_eq_true, decide_eq_true_eq] at this
  omega

theorem number_step_dead (cfg : Cfg) (s : St) (d e : Nat) (r : Bytes) (hst : s.st = .number)
    (h : stepNumber s d = (fail s e, true)) : ¬ Acc cfg s (d :: r) := by
  intro hA
  have hstep : stepChar cfg s d = (fail s e, true) := by simp only [stepChar, hst]; exact h
  refine Acc.not_dead ?_ hA
  rw [feedChar_of_consumed cfg s d hA.err_none (by rw [hstep]), hstep]; rfl

theorem number_inv (cfg : Cfg) (s0 : St) (hvs : vState s0.st = true) (c : Nat) (cs : Bytes) (ns0 : NS)
    (hs : numStart c = some ns0) (h : Acc cfg s0 (c :: cs)) :
    ∃ pre r, cs = pre ++ r ∧ Spec.Rfc8259.parseNumber (c :: cs) = some (c :: pre, r) ∧ NoDigitHead r ∧ ∀ x ∈ c :: pre, x ≠ 92 := by
  have he0 := h.err_none
  cases hsc : numScan ns0 cs with
  | mk f r =>
    obtain ⟨pre, e1, -, e3, hp, hfeed⟩ := feed_number_scan cfg s0 c cs ns0 f r hvs he0 hs hsc
    have hE : Acc cfg { s0 with st := .number, ns := f, buf := c :: pre } r := by
      unfold Acc at h ⊢
      rwa [hfeed] at h
    by_cases hf : numFinal f = true
    · rw [if_pos hf] at hp
      refine ⟨pre, r, e1, hp, ?_, parseNumber_no92 _ _ _ hp⟩
      intro d r'' e
      rcases numFinal_next f d hf (e3 d r'' e) with ⟨hz, hd⟩ | hd
      · -- a digit after a leading zero
        subst e
        exact absurd hE (number_step_dead cfg _ d eLeadingZero r'' rfl (stepNumber_leading_zero _ d hz hd))
      · exact hd
    · -- the literal is incomplete: the machine fails at the next character or at the end
      have hf' : numFinal f = false := by simpa using hf
      exfalso
      cases r with
      | nil =>
        refine Acc.not_eof ?_ hE
        cases f <;> simp [numFinal] at hf' <;> simp [finish1, fail]
      | cons d r'' =>
        exact number_step_dead cfg _ d eInvalidNumber r'' rfl (stepNumber_nonfinal _ d hf' (e3 d r'' rfl)) hE

/-- a literal or a number where a value may start, on an accepting run: the reference — whatever its flags, its fuel and the
    depth — reads a value off the same characters `p`, and the machine goes on from the after-value state of the nesting context.
    No backslash in `p`, so `surrogateOK (p ++ r) = surrogateOK r` (used by `Run.reach`). -/
theorem scalar_inv (cfg : Cfg) {stk : List PS} {n : Nat} (hctx : Ctx stk n) (s0 : St) (hvs : vState s0.st = true)
    (hstk : s0.stack = stk) (hlvl : s0.level = n) (c : Nat) (cs : Bytes)
    (hc : c = 116 ∨ c = 102 ∨ c = 110 ∨ ∃ ns0, numStart c = some ns0) (h : Acc cfg s0 (c :: cs)) :
    ∃ v p r s1 evs, c :: cs = p ++ r ∧ p ≠ [] ∧ (∀ x ∈ p, x ≠ 92) ∧
      (∀ (fl : Flags) (f d : Nat), parseValue fl (f + 1) d (c :: cs) = some (v, r)) ∧
      Reach cfg s0 (c :: cs) s1 r evs ∧ Shape s1 (afterSt n) stk n := by
  have he := h.err_none
  rcases hc with rfl | rfl | rfl | ⟨ns0, hns⟩
  · obtain ⟨r, rfl⟩ := true_inv cfg s0 hvs cs h
    obtain ⟨s1, R1, h1⟩ := reach_literal cfg s0 (feed_true cfg s0 r hvs he) rfl he hstk hlvl
    exact ⟨.bool true, [116, 114, 117, 101], r, s1, _, rfl, by simp, by decide,
      fun fl f d => by simp [parseValue, startsWith], R1, h1⟩
  · obtain ⟨r, rfl⟩ := false_inv cfg s0 hvs cs h
    obtain ⟨s1, R1, h1⟩ := reach_literal cfg s0 (feed_false cfg s0 r hvs he) rfl he hstk hlvl
    exact ⟨.bool false, [102, 97, 108, 115, 101], r, s1, _, rfl, by simp, by decide,
      fun fl f d => by simp [parseValue, startsWith], R1, h1⟩
  · obtain ⟨r, rfl⟩ := null_inv cfg s0 hvs cs h
    obtain ⟨s1, R1, h1⟩ := reach_literal cfg s0 (feed_null cfg s0 r hvs he) rfl he hstk hlvl
    exact ⟨.null, [110, 117, 108, 108], r, s1, _, rfl, by simp, by decide,
      fun fl f d => by simp [parseValue, startsWith], R1, h1⟩
  · obtain ⟨pre, r, rfl, hp, hnd, h92⟩ := number_inv cfg s0 hvs c cs ns0 hns h
    obtain ⟨s1, R1, h1⟩ := reach_number cfg hctx s0 c (pre ++ r) (c :: pre) r hp hnd hvs he hstk hlvl
    have e1 : c ≠ 116 ∧ c ≠ 102 ∧ c ≠ 110 ∧ c ≠ 123 ∧ c ≠ 91 ∧ c ≠ 34 := by
      have := numStart_range c ns0 hns; omega
    exact ⟨.num (c :: pre), c :: pre, r, s1, _, rfl, by simp, h92, fun fl f d => by simp [parseValue, e1, hp], R1, h1⟩

end JsonParser
end Model
end JV
