/-
  JV.Proofs.MergePatchDiff — pointwise (finite-map) characterisations and the diff law.
-/
import JV.Proofs.MergePatch
namespace JV
open Assoc Model Spec.Rfc7386

theorem sorted_mergeMembers : ∀ (pm tm : List (Bytes × JVal)), Sorted tm → Sorted (mergeMembers tm pm)
  | [], _, hs => hs
  | (k, pv) :: pm, tm, hs => by
    rw [mergeMembers]
    split
    · exact sorted_mergeMembers pm _ (sorted_erase hs)
    · exact sorted_mergeMembers pm _ (sorted_assign hs)

theorem find_mergeMembers (k : Bytes) : ∀ (pm tm : List (Bytes × JVal)), Sorted tm → Sorted pm →
    find k (mergeMembers tm pm) =
      match find k pm with
      | none => find k tm
      | some pv => if pv.isNull then none else some (mergePatch ((find k tm).getD .null) pv)
  | [], tm, _, _ => by simp [mergeMembers, find]
  | (k0, pv0) :: pm, tm, hs, hn => by
    rw [mergeMembers]
    by_cases e : k0 = k
    · -- the patch member of that name decides; the name does not occur again in the patch
      subst e
      split
      · next hnull =>
        rw [find_mergeMembers k0 pm _ (sorted_erase hs) hn.tail, hn.find_tail]
        simp [find, hnull, find_erase_self hs]
      · next hnull =>
        rw [find_mergeMembers k0 pm _ (sorted_assign hs) hn.tail, hn.find_tail]
        simp [find, hnull, find_assign_self hs]
    · have e' : k ≠ k0 := fun h => e h.symm
      split
      · rw [find_mergeMembers k pm _ (sorted_erase hs) hn.tail, find_erase_ne e']; simp [find, e]
      · rw [find_mergeMembers k pm _ (sorted_assign hs) hn.tail, find_assign_ne hs e']; simp [find, e]

/-! ### the two loops of `from_diff` -/

/-- the shape of both loops -/
def emplaceLoop (g : Bytes → JVal → Option JVal) : List (Bytes × JVal) → List (Bytes × JVal) → List (Bytes × JVal)
  | [], acc => acc
  | (k, x) :: ms, acc => emplaceLoop g ms (match g k x with | some y => tryEmplace false k y acc | none => acc)

theorem diffSecond_eq (sm : List (Bytes × JVal)) : ∀ (tm acc : List (Bytes × JVal)),
    diffSecond false sm tm acc = emplaceLoop (fun k tv => match find k sm with | some _ => none | none => some tv) tm acc
  | [], _ => rfl
  | (k, tv) :: tm, acc => by
    simp only [diffSecond, emplaceLoop]
    cases find k sm <;> exact diffSecond_eq sm tm _

theorem diffFirst_eq (tm : List (Bytes × JVal)) : ∀ (sm acc : List (Bytes × JVal)),
    diffFirst false sm tm acc = emplaceLoop (fun k sv => match find k tm with
      | some tv => if sv != tv then some (fromDiff false sv tv) else none
      | none => some .null) sm acc
  | [], _ => rfl
  | (k, sv) :: sm, acc => by
    simp only [diffFirst, emplaceLoop]
    cases find k tm with
    | none => exact diffFirst_eq tm sm _
    | some tv => by_cases hne : (sv != tv) = true <;> simp only [hne] <;> exact diffFirst_eq tm sm _

theorem sorted_emplaceLoop (g : Bytes → JVal → Option JVal) : ∀ (ms acc : List (Bytes × JVal)), Sorted acc →
    Sorted (emplaceLoop g ms acc)
  | [], _, h => h
  | (k, x) :: ms, acc, h => by
    apply sorted_emplaceLoop g ms
    split
    · exact sorted_tryEmplace h
    · exact h

theorem find_emplaceLoop (k : Bytes) (g : Bytes → JVal → Option JVal) : ∀ (ms acc : List (Bytes × JVal)), Sorted ms →
    find k (emplaceLoop g ms acc) = (find k acc).or ((find k ms).bind (g k))
  | [], acc, _ => by simp [emplaceLoop, find]
  | (k0, x) :: ms, acc, hs => by
    rw [emplaceLoop, find_emplaceLoop k g ms _ hs.tail]
    by_cases e : k0 = k
    · -- the member of that name: it is emplaced unless `g` skips it or the name is taken, and occurs once
      subst e
      rw [hs.find_tail]
      cases hg : g k0 x with
      | none => simp [find, hg]
      | some y => cases hacc : find k0 acc <;> simp [find, find_tryEmplace, hg, hacc]
    · have e' : k ≠ k0 := fun h => e h.symm
      cases hg : g k0 x with
      | none => simp [find, e]
      | some y => cases hacc : find k acc <;> simp [find, find_tryEmplace, e, e', hacc]

theorem wfMembers_tryEmplace {k : Bytes} {v : JVal} {acc : List (Bytes × JVal)} (hv : v.WF) (hw : WFMembers acc) :
    WFMembers (tryEmplace false k v acc) :=
  wfMembers_iff.2 fun p hp => (mem_tryEmplace false hp).elim (wfMembers_iff.1 hw p) (· ▸ hv)

theorem wfMembers_diffSecond (sm : List (Bytes × JVal)) : ∀ (tm acc : List (Bytes × JVal)), WFMembers tm → WFMembers acc →
    WFMembers (diffSecond false sm tm acc)
  | [], _, _, h => by simpa [diffSecond] using h
  | (k, tv) :: tm, acc, ht, h => by
    simp only [diffSecond]
    cases find k sm with
    | some _ => exact wfMembers_diffSecond sm tm acc ht.2 h
    | none => exact wfMembers_diffSecond sm tm _ ht.2 (wfMembers_tryEmplace ht.1 h)

mutual
  theorem fromDiff_WF : ∀ (s t : JVal), s.WF → t.WF → (fromDiff false s t).WF
    | .obj sm, t, hs, ht => by
      cases t with
      | obj tm =>
        have h1 := diffFirst_WF sm tm [] hs.2 ht.2 trivial trivial
        simp only [fromDiff, JVal.WF]
        exact ⟨diffSecond_eq sm tm _ ▸ sorted_emplaceLoop _ tm _ h1.1, wfMembers_diffSecond sm tm _ ht.2 h1.2⟩
      | _ => simpa [fromDiff] using ht
    | .null, t, _, ht | .bool _, t, _, ht | .int _, t, _, ht | .str _, t, _, ht => by simpa [fromDiff] using ht
    | .arr _, t, _, ht => by simpa [fromDiff] using ht
  theorem diffFirst_WF : ∀ (sm tm acc : List (Bytes × JVal)), WFMembers sm → WFMembers tm → Sorted acc → WFMembers acc →
      Sorted (diffFirst false sm tm acc) ∧ WFMembers (diffFirst false sm tm acc)
    | [], _, acc, _, _, ha, hw => by simp [diffFirst, ha, hw]
    | (k, sv) :: sm, tm, acc, hs, ht, ha, hw => by
      simp only [diffFirst]
      cases hf : find k tm with
      | some tv =>
        simp only []
        by_cases hne : (sv != tv) = true
        · simp only [hne, if_true]
          exact diffFirst_WF sm tm _ hs.2 ht (sorted_tryEmplace ha)
            (wfMembers_tryEmplace (fromDiff_WF sv tv hs.1 (wf_of_find ht hf)) hw)
        · simp only [hne]
          exact diffFirst_WF sm tm acc hs.2 ht ha hw
      | none =>
        simp only []
        exact diffFirst_WF sm tm _ hs.2 ht (sorted_tryEmplace ha) (wfMembers_tryEmplace trivial hw)
end

theorem mergePatch_nonobj {x : JVal} (hx : x.isObject = false) (v : JVal) : mergePatch x v = mergePatch .null v := by
  cases v <;> cases x <;> simp_all [mergePatch, JVal.isObject]

theorem mergePatch_of_nonobj_patch {v : JVal} (hv : v.isObject = false) (x : JVal) : mergePatch x v = v := by
  cases v <;> simp_all [mergePatch, JVal.isObject]

theorem fromDiff_of_not_both {s t : JVal} (h : s.isObject = false ∨ t.isObject = false) : fromDiff false s t = t := by
  cases s <;> cases t <;> simp_all [fromDiff, JVal.isObject]

theorem fromDiff_nonnull {s t : JVal} (h : t.isNull = false) : (fromDiff false s t).isNull = false := by
  cases s <;> cases t <;> simp_all [fromDiff, JVal.isNull]

theorem isObject_iff {v : JVal} : v.isObject = true ↔ ∃ ms, v = .obj ms := by
  cases v <;> simp [JVal.isObject]

theorem mergePatch_fresh : ∀ (v : JVal), v.WF → v.NoNullMembers → mergePatch .null v = v
  | .obj m, hw, hnn => by
    have hw' : Sorted m ∧ WFMembers m := hw
    have hnn' : NoNullMems m := by simpa [JVal.NoNullMembers] using hnn
    simp only [mergePatch]
    congr 1
    apply sorted_ext (sorted_mergeMembers m [] trivial) hw'.1
    intro k
    rw [find_mergeMembers k m [] trivial hw'.1]
    cases hf : find k m with
    | none => simp [find]
    | some pv =>
      have hp := nonull_of_find hnn' hf
      simp only [hp.1, find, Option.getD_none, Bool.false_eq_true, if_false]
      rw [mergePatch_fresh pv (wf_of_find hw'.2 hf) hp.2]
  | .null, _, _ | .bool _, _, _ | .int _, _, _ | .str _, _, _ | .arr _, _, _ => rfl
termination_by v => v.size
decreasing_by
  have := size_of_find hf
  simp only [JVal.size]; omega

/-- `n` only bounds `s.size` for the recursion -/
theorem diff_law_aux : ∀ (n : Nat) (s t : JVal), s.size ≤ n → s.WF → t.WF → t.NoNullMembers →
    applyMP false s (fromDiff false s t) = t
  | 0, s, _, h, _, _, _ => by cases s <;> simp [JVal.size] at h <;> omega
  | n + 1, s, t, hsz, hs, ht, hnn => by
    cases hto : t.isObject with
    | false => rw [fromDiff_of_not_both (.inr hto), (applyMP_spec s t hs ht).1, mergePatch_of_nonobj_patch hto]
    | true =>
    cases hso : s.isObject with
    | false =>
      rw [fromDiff_of_not_both (.inl hso), (applyMP_spec s t hs ht).1, mergePatch_nonobj hso, mergePatch_fresh t ht hnn]
    | true =>
      obtain ⟨sm, rfl⟩ := isObject_iff.1 hso
      obtain ⟨tm, rfl⟩ := isObject_iff.1 hto
      have hd := fromDiff_WF (.obj sm) (.obj tm) hs ht
      rw [(applyMP_spec _ _ hs hd).1]
      simp only [fromDiff, mergePatch] at hd ⊢
      congr 1
      -- compare the two sorted objects name by name
      apply sorted_ext (sorted_mergeMembers _ _ hs.1) ht.1
      intro k
      rw [find_mergeMembers k _ sm hs.1 hd.1, diffSecond_eq, find_emplaceLoop k _ tm _ ht.1,
        diffFirst_eq, find_emplaceLoop k _ sm [] hs.1]
      simp only [find, Option.none_or]
      cases hfs : find k sm with
      | none =>
        cases hft : find k tm with
        | none => simp
        | some tv =>
          have hp := nonull_of_find hnn hft
          simp only [Option.bind_none, Option.none_or, Option.bind_some, hp.1, Option.getD_none,
            Bool.false_eq_true, if_false]
          rw [mergePatch_fresh tv (wf_of_find ht.2 hft) hp.2]
      | some sv =>
        cases hft : find k tm with
        | none => simp [JVal.isNull]
        | some tv =>
          have hp := nonull_of_find hnn hft
          by_cases hne : (sv != tv) = true
          · have hsv := wf_of_find hs.2 hfs
            have htv := wf_of_find ht.2 hft
            have hsvsz : sv.size ≤ n := by
              have := size_of_find hfs
              simp only [JVal.size] at hsz; omega
            have ih := diff_law_aux n sv tv hsvsz hsv htv hp.2
            simp [hne, fromDiff_nonnull hp.1]
            rw [← (applyMP_spec _ _ hsv (fromDiff_WF sv tv hsv htv)).1, ih]
          · have heq : sv = tv := Classical.byContradiction fun e => hne ((JVal.bne_iff sv tv).2 e)
            subst heq
            simp [hne]

end JV
