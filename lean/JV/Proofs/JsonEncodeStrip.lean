/-
  JV.Proofs.JsonEncodeStrip — white-space strings (`AllWs`), the layouts made of them (`WsLayout`), and the scanner that
  deletes the bytes 0x20 0x09 0x0A 0x0D outside string literals: it skips white space, copies punctuation, literals,
  number texts and the string literals the encoders write.
-/
import JV.Model.JsonEncode
import JV.Proofs.JsonEscape
namespace JV
namespace Model
namespace JsonEncode
open Spec.Rfc8259

def AllWs (w : Bytes) : Prop := ∀ c ∈ w, isWs c = true

instance (w : Bytes) : Decidable (AllWs w) := by unfold AllWs; infer_instance

/-- the option records for which the claims are made: new_line_chars and indent_char are white space -/
def WsLayout (o : PrettyOpts) : Prop := AllWs o.newLine ∧ isWs o.indentChar = true

instance (o : PrettyOpts) : Decidable (WsLayout o) := by unfold WsLayout; infer_instance

theorem allWs_nil : AllWs [] := by intro c hc; cases hc

theorem allWs_append {a b : Bytes} (ha : AllWs a) (hb : AllWs b) : AllWs (a ++ b) := by
  intro x hx; rcases List.mem_append.1 hx with h | h
  · exact ha x h
  · exact hb x h

theorem allWs_replicate (n c : Nat) (h : isWs c = true) : AllWs (List.replicate n c) := by
  intro x hx; rw [List.eq_of_mem_replicate hx]; exact h

theorem allWs_ite (b : Bool) (w : Bytes) (h : AllWs w) : AllWs (if b = true then w else []) := by
  cases b
  · exact allWs_nil
  · exact h

theorem allWs_nl (o : PrettyOpts) (h : WsLayout o) (ind : Nat) : AllWs (nl o ind) :=
  allWs_append h.1 (allWs_replicate _ _ h.2)

theorem allWs_nlPos (o : PrettyOpts) (h : WsLayout o) (n : Nat) : AllWs (nlPos o n) :=
  allWs_append h.1 (allWs_replicate _ _ (by decide))

/-- where the scan is: outside a string literal, inside one, after a backslash inside one -/
inductive Mode where
  | out | str | esc

/-- drops the white space outside string literals -/
def strip : Mode → Bytes → Bytes
  | _, [] => []
  | .out, c :: cs => if c = 34 then c :: strip .str cs else if isWs c then strip .out cs else c :: strip .out cs
  | .str, c :: cs => if c = 34 then c :: strip .out cs else if c = 92 then c :: strip .esc cs else c :: strip .str cs
  | .esc, c :: cs => c :: strip .str cs

def stripWsOutsideStrings (s : Bytes) : Bytes := strip .out s

/-- a text `strip .out` passes unchanged: no white space, no quote -/
def Plain (p : Bytes) : Prop := ∀ c ∈ p, isWs c = false ∧ c ≠ 34

theorem strip_ws : ∀ (w r : Bytes), AllWs w → strip .out (w ++ r) = strip .out r
  | [], _, _ => rfl
  | c :: w, r, h => by
    have hc : isWs c = true := h c (by simp)
    have h34 : c ≠ 34 := by intro e; subst e; simp [isWs] at hc
    simp only [List.cons_append, strip, h34, if_false, hc, if_true]
    exact strip_ws w r (fun x hx => h x (by simp [hx]))

theorem strip_plain : ∀ (p r : Bytes), Plain p → strip .out (p ++ r) = p ++ strip .out r
  | [], _, _ => rfl
  | c :: p, r, h => by
    have hc := h c (by simp)
    simp only [List.cons_append, strip, hc.2, if_false, hc.1, Bool.false_eq_true]
    rw [strip_plain p r (fun x hx => h x (by simp [hx]))]

theorem strLit_eq (sol : Bool) (s : Bytes) : strLit sol s = 34 :: (s.flatMap (JsonEscape.escByte sol) ++ [34]) := by
  rw [strLit, JsonEscape.escapeString_eq]; rfl

theorem hexChar_plain (n : Nat) : JsonEscape.hexChar (n % 16) ≠ 34 ∧ JsonEscape.hexChar (n % 16) ≠ 92 := by
  have := Nat.mod_lt n (show 0 < 16 by decide)
  unfold JsonEscape.hexChar; split <;> omega

/-- inside a string literal the scanner copies what stands for one byte: it contains no quote, and a backslash only in
    front of another character -/
theorem strip_escByte (sol : Bool) (c : Nat) (r : Bytes) :
    strip .str (JsonEscape.escByte sol c ++ r) = JsonEscape.escByte sol c ++ strip .str r := by
  rcases JsonEscape.escByte_cases sol c with ⟨e, h, _⟩ | ⟨h, _⟩ | ⟨h, h34, _, h92⟩ <;> rw [h]
  · simp [strip]
  · simp [JsonEscape.u4, strip, hexChar_plain]
  · simp [strip, h34, h92]

theorem strip_escaped (sol : Bool) : ∀ s r : Bytes, strip .str (s.flatMap (JsonEscape.escByte sol) ++ 34 :: r) =
    s.flatMap (JsonEscape.escByte sol) ++ 34 :: strip .out r
  | [], _ => by simp [strip]
  | c :: cs, r => by rw [List.flatMap_cons, List.append_assoc, strip_escByte, strip_escaped sol cs r, List.append_assoc]

theorem strip_strLit (sol : Bool) (s r : Bytes) : strip .out (strLit sol s ++ r) = strLit sol s ++ strip .out r := by
  rw [strLit_eq]
  simp only [List.cons_append, List.append_assoc, List.nil_append, strip, if_true, strip_escaped]

theorem plain_lits : Plain nullLit ∧ Plain trueLit ∧ Plain falseLit := by
  unfold Plain; decide

theorem strip_punct (c : Nat) (r : Bytes) (hc : isWs c = false ∧ c ≠ 34) : strip .out (c :: r) = c :: strip .out r := by
  simp only [strip, hc.2, if_false, hc.1, Bool.false_eq_true]

mutual
  /-- number texts contain no white space and no quote (true of every RFC 8259 number) -/
  def plainNums : JT → Bool
    | .num lit => lit.all fun c => !isWs c && c != 34
    | .arr xs => plainNumsList xs
    | .obj ms => plainNumsMembers ms
    | _ => true
  def plainNumsList : List JT → Bool
    | [] => true
    | x :: xs => plainNums x && plainNumsList xs
  def plainNumsMembers : List (Bytes × JT) → Bool
    | [] => true
    | (_, x) :: ms => plainNums x && plainNumsMembers ms
end

theorem plain_num (lit : Bytes) (h : plainNums (.num lit) = true) : Plain lit := by
  intro c hc
  have h' : ∀ x, x ∈ lit → isWs x = false ∧ ¬ x = 34 := by simpa [plainNums] using h
  exact h' c hc

end JsonEncode
end Model
end JV
