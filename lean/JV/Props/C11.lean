/-
  C11 — JSON Schema validation verdicts are correct.

  `JV.Spec.JsonSchema` is a reference validator written from the specification for the unambiguous core vocabulary
  (see its header); the correspondence check compares jsoncons' verdict with it on generated (dialect, schema, instance)
  triples and cross-checks is_valid / reporter / throwing / visitor forms, reuse of the compiled schema and member order
  in the harness. Proved here: the reference has the logical laws the specification implies, for all schemas and
  instances — so a disagreement with jsoncons is a disagreement with a validator that is at least internally the logic
  the keywords describe.
-/
import JV.Spec.JsonSchema
namespace JV
namespace Props
namespace C11
open Spec.JsonSchema

theorem true_schema_accepts (v : JVal) : valid (.bool true) v = true := by simp [valid, validate]
theorem false_schema_rejects (v : JVal) : valid (.bool false) v = false := by simp [valid, validate]
theorem empty_schema_accepts (v : JVal) : valid (.node [] none none) v = true := by
  simp [valid, validate, validateKws, finish, unevalItems, unevalProps]

/-- a schema object with one keyword and no unevaluated* keyword is valid exactly when the keyword is -/
theorem single_keyword (k : Kw) (v : JVal) : valid (.node [k] none none) v = (validateKw k v).isSome := by
  simp only [valid, validate, validateKws]
  cases validateKw k v <;> simp [finish, unevalItems, unevalProps]

theorem not_inverts (s : Schema) (v : JVal) : valid (.node [.not s] none none) v = !valid s v := by
  rw [single_keyword]
  unfold validateKw valid
  cases (validate s v).isSome <;> rfl

theorem double_negation (s : Schema) (v : JVal) :
    valid (.node [.not (.node [.not s] none none)] none none) v = valid s v := by
  rw [not_inverts, not_inverts]; simp

theorem allAnn_isSome : ∀ (rs : List (Option Ann)), (allAnn rs).isSome = rs.all (·.isSome)
  | [] => by simp [allAnn]
  | none :: rs => by simp [allAnn]
  | some a :: rs => by simp [allAnn, allAnn_isSome rs]

theorem all_validateEach (ss : List Schema) (v : JVal) :
    (validateEach ss v).all (·.isSome) = ss.all (fun s => valid s v) := by
  induction ss with
  | nil => simp [validateEach]
  | cons s ss ih => simp [validateEach, valid, ih]

theorem any_validateEach (ss : List Schema) (v : JVal) :
    (validateEach ss v).any (·.isSome) = ss.any (fun s => valid s v) := by
  induction ss with
  | nil => simp [validateEach]
  | cons s ss ih => simp [validateEach, valid, ih]

/-- allOf: valid exactly when every subschema is -/
theorem allOf_is_conjunction (ss : List Schema) (v : JVal) :
    valid (.node [.allOf ss] none none) v = ss.all (fun s => valid s v) := by
  rw [single_keyword]
  unfold validateKw
  rw [allAnn_isSome]
  exact all_validateEach ss v

/-- anyOf: valid exactly when some subschema is -/
theorem anyOf_is_disjunction (ss : List Schema) (v : JVal) :
    valid (.node [.anyOf ss] none none) v = ss.any (fun s => valid s v) := by
  rw [single_keyword]
  unfold validateKw
  rw [← any_validateEach ss v]
  cases h : (validateEach ss v).any (·.isSome) <;> simp [h]

/-- oneOf: valid exactly when exactly one subschema is -/
theorem oneOf_is_exactly_one (ss : List Schema) (v : JVal) :
    valid (.node [.oneOf ss] none none) v = decide ((ss.filter (fun s => valid s v)).length = 1) := by
  rw [single_keyword]
  unfold validateKw
  have hlen : ((validateEach ss v).filter (·.isSome)).length = (ss.filter (fun s => valid s v)).length := by
    induction ss with
    | nil => simp [validateEach]
    | cons s ss ih =>
      simp only [validateEach, List.filter_cons, valid]
      cases (validate s v).isSome <;> simp [ih, valid]
  simp only [hlen]
  by_cases h : (ss.filter (fun s => valid s v)).length = 1 <;> simp [h]

theorem condResult_isSome (ri rt re : Option Ann) :
    (condResult ri (some rt) (some re)).isSome = (if ri.isSome then rt.isSome else re.isSome) := by
  cases ri <;> cases rt <;> cases re <;> simp [condResult]

/-- if / then / else -/
theorem conditional (i t e : Schema) (v : JVal) :
    valid (.node [.cond i (some t) (some e)] none none) v = (if valid i v then valid t v else valid e v) := by
  rw [single_keyword]
  unfold validateKw valid
  exact condResult_isSome _ _ _

/-- the numeric keywords constrain numbers only -/
theorem minimum_ignores_non_numbers (n : Int) (v : JVal) (h : ∀ i, v ≠ .int i) : (validateKw (.minimum n) v).isSome = true := by
  unfold validateKw
  split
  · exact absurd rfl (h _)
  · rfl

theorem maxLength_ignores_non_strings (n : Nat) (v : JVal) (h : ∀ s, v ≠ .str s) : (validateKw (.maxLength n) v).isSome = true := by
  unfold validateKw
  split
  · exact absurd rfl (h _)
  · rfl

theorem required_ignores_non_objects (ks : List Bytes) (v : JVal) (h : v.isObject = false) : (validateKw (.required ks) v).isSome = true := by
  unfold validateKw
  split
  · cases h
  · rfl

/-- `unevaluatedProperties: false` alone admits exactly the objects without members (and every non-object) -/
theorem unevaluated_false_alone (ms : List (Bytes × JVal)) :
    valid (.node [] (some (.bool false)) none) (.obj ms) = ms.isEmpty := by
  cases ms with
  | nil => simp [valid, validate, validateKws, finish, unevalItems, unevalProps]
  | cons m ms => simp [valid, validate, validateKws, finish, unevalItems, unevalProps]

/-- exclusive bounds are strict, inclusive ones are not: the boundary value itself -/
theorem exclusiveMinimum_rejects_the_bound (n : Int) : (validateKw (.exclusiveMinimum n) (.int n)).isSome = false := by
  unfold validateKw
  simp
theorem minimum_accepts_the_bound (n : Int) : (validateKw (.minimum n) (.int n)).isSome = true := by
  unfold validateKw
  simp

end C11
end Props
end JV
