/-
  C03 — decoding does not depend on how the input is delivered.

  Proved here (Model: JV.Model.StreamSource = `stream_source` of source.hpp, tied to the real class by
  the `src` correspondence stream): for EVERY chunk size k ≥ 1 and every sequence of requests, what a
  stream-backed source hands to a decoder is exactly what the flat byte sequence would hand it —
  `read n` returns the next n bytes whenever n bytes remain and comes back short otherwise, `peek`
  shows the next byte, `read_chunk` returns a prefix of what remains, `eof()` is never true early.
  Hence every decoder written against the source interface (JSON reader, CBOR/MessagePack/UBJSON/
  BSON parsers) sees the same bytes from a stream with any internal buffer size as from a buffer.

  Also proved here (Model: JV.Model.JsonParser = json_parser.hpp as it behaves when it is handed one character per update(), so that every
  "Buffer exhausted" save/resume branch is a state of the model): however a text is cut into pieces, feeding the pieces and then signalling
  end of input gives the outcome of the whole text - same events, same error code, same final state (`json_chunk_independent`,
  `json_split_independent`), and nothing after an error is looked at (`json_error_is_final`). The REAL parser is tied to that model under every
  chunking by the `parser-model-pieces` stream: after every delivered piece its suspended state (parse_state, number/string sub-state, level,
  state stack, buffer, code points - guarded hook `verif_inspect`) must be the model's state after the same prefix, and its outcome the
  model's; so the look-ahead fast paths and the resume code are exactly what the tie exercises.

  NOT proved (decided per case on the real code by the `jt deliver` stream: every 2-way split, every uniform chunk size 1..7, random splits,
  readers, stream buffers 1/2/3/5/16, iterator source, pull cursor; outcomes must coincide): the cursor / reader glue around the parser, CSV
  chunking and the binary decoders under chunking. D1, D17, D23: fixed; D21: known finding.
-/
import JV.Proofs.StreamSource
import JV.Proofs.JsonParser
namespace JV.Props.C03
open JV Model Model.StreamSource

/-- a request the remaining input can satisfy returns exactly the next `n` bytes, whatever the chunk size -/
theorem stream_read_exact (s : St) (n : Nat) (hi : Inv s) (hn : n ≤ (pending s).length) :
    (read s n).1 = n ∧ (read s n).2.1 = (pending s).take n ∧ pending (read s n).2.2 = (pending s).drop n ∧ Inv (read s n).2.2 := by
  have hlen : (pending s).length = s.buf.length + s.rest.length := by simp [pending]
  by_cases h1 : n ≤ s.buf.length
  · -- served from the chunk
    have hmin : min s.buf.length n = n := by omega
    unfold StreamSource.read
    simp only [hmin, Nat.sub_self, if_true]
    refine ⟨trivial, ?_, ?_, hi⟩
    · simp [pending, List.take_append_of_le_length h1]
    · simp [pending, List.drop_append_of_le_length h1]
  · -- the chunk is used up and `m` more bytes come from the stream
    obtain ⟨m, rfl⟩ : ∃ m, n = s.buf.length + m := ⟨n - s.buf.length, by omega⟩
    have hmin : min s.buf.length (s.buf.length + m) = s.buf.length := by omega
    have hsub : s.buf.length + m - s.buf.length = m := by omega
    have hm0 : ¬ (m = 0) := by omega
    have hne : s.eofbit = false := by
      cases he : s.eofbit
      · rfl
      · have := hi.1 he
        simp [this] at hlen
        omega
    unfold StreamSource.read
    simp only [hmin, hsub, hm0, if_false, List.take_length, List.drop_length, pending, List.take_length_add_append,
      List.drop_length_add_append]
    by_cases h2 : m < s.k
    · -- through a fresh chunk, which holds at least `m` bytes
      have hs1 : Inv { s with buf := [], pos := s.pos + s.buf.length } := hi
      have hgot : (s.rest.take s.k).length = min s.k s.rest.length := List.length_take
      have hpos : (s.rest.take s.k).length > 0 := by omega
      have hmin2 : min (s.rest.take s.k).length m = m := by omega
      have hinv := inv_fill _ hs1
      rw [fill_eq _ hs1] at hinv ⊢
      simp only [h2, if_true, hpos, hmin2]
      refine ⟨trivial, ?_, ?_, hinv.1, hi.2⟩
      · rw [List.take_take, Nat.min_eq_left (Nat.le_of_lt h2)]
      · exact drop_take_append_drop _ (Nat.le_of_lt h2)
    · -- a request of a chunk or more bypasses the chunk
      have hgl : (s.rest.take m).length = m := by rw [List.length_take]; omega
      simp only [h2, if_false, hne, Bool.false_eq_true, hgl, List.nil_append]
      exact ⟨trivial, trivial, trivial, by simp, hi.2⟩

/-- a request for more than remains comes back short -/
theorem stream_read_short (s : St) (n : Nat) (hi : Inv s) (hn : (pending s).length < n) : (read s n).1 < n := by
  have hlen : (pending s).length = s.buf.length + s.rest.length := by simp [pending]
  have hmin : min s.buf.length n = s.buf.length := by omega
  have hm : n - s.buf.length ≠ 0 := by omega
  have hs1 : Inv { s with buf := [], pos := s.pos + s.buf.length } := hi
  unfold StreamSource.read
  simp only [hmin, hm, if_false, List.take_length, List.drop_length, fill_eq _ hs1]
  by_cases hchunk : n - s.buf.length < s.k
  · -- the rest of the request goes through a fresh chunk
    rw [if_pos hchunk]
    by_cases hgot : (s.rest.take s.k).length > 0
    · -- the refill brought something: what is left of the stream is shorter than what is still asked for
      rw [if_pos hgot]
      simp only [List.length_take]
      omega
    · -- nothing came: only the old chunk is returned
      rw [if_neg hgot]
      show s.buf.length < n
      omega
  · -- a chunk or more is still asked for: the chunk is bypassed
    rw [if_neg hchunk]
    by_cases he : s.eofbit = true
    · -- at end of stream the call returns 0
      rw [if_pos he]
      show 0 < n
      omega
    · -- otherwise the old chunk plus what the stream still has
      rw [if_neg he]
      simp only [List.length_take]
      omega

theorem stream_peek (s : St) (hi : Inv s) :
    (peek s).1 = (pending s).head? ∧ pending (peek s).2 = pending s ∧ Inv (peek s).2 := by
  unfold peek
  by_cases hb : s.buf = []
  · obtain ⟨hp, hinv⟩ := fill_pending s hb hi
    simp only [hb, List.length_nil, if_true]
    refine ⟨?_, hp, hinv⟩
    rw [← hp, pending, List.head?_append]
    cases h : (fill s).buf with
    | nil => simp [(fill_eq s hi ▸ rfl : (fill s).rest = s.rest.drop s.k), rest_nil_of_fill_buf_nil s hi h]
    | cons c cs => rfl
  · have hl : ¬ s.buf.length = 0 := fun h => hb (List.length_eq_zero_iff.1 h)
    simp only [hl, if_false]
    refine ⟨?_, trivial, hi⟩
    rw [pending, List.head?_append]
    cases h : s.buf with
    | nil => exact absurd h hb
    | cons c cs => rfl

theorem stream_read_chunk (s : St) (hi : Inv s) :
    (readChunk s).1 ++ pending (readChunk s).2 = pending s ∧ Inv (readChunk s).2 ∧ ((readChunk s).1 = [] → pending s = []) := by
  unfold readChunk
  by_cases hb : s.buf = []
  · obtain ⟨hp, hinv⟩ := fill_pending s hb hi
    simp only [hb, List.length_nil, if_true]
    refine ⟨by simpa [pending] using hp, hinv, fun he => ?_⟩
    simp [pending, hb, rest_nil_of_fill_buf_nil s hi he]
  · have hl : ¬ s.buf.length = 0 := fun h => hb (List.length_eq_zero_iff.1 h)
    simp only [hl, if_false]
    exact ⟨by simp [pending], hi, fun he => absurd he hb⟩

theorem stream_eof_sound (s : St) (hi : Inv s) (h : eof s = true) : pending s = [] := by
  simp only [eof, Bool.and_eq_true, decide_eq_true_eq] at h
  have hb : s.buf = [] := List.length_eq_zero_iff.1 h.1
  simp [pending, hb, hi.1 h.2]

/-- the byte strings returned by successive reads of the given lengths -/
def readAll : St → List Nat → List Bytes
  | _, [] => []
  | s, n :: ns => (read s n).2.1 :: readAll (read s n).2.2 ns

def sliceAll : Bytes → List Nat → List Bytes
  | _, [] => []
  | bs, n :: ns => bs.take n :: sliceAll (bs.drop n) ns

/-- a whole sequence of satisfiable reads over a stream with chunk size `k` returns the same byte
    strings as slicing the flat content, for every `k ≥ 1` -/
theorem stream_refines_flat (content : Bytes) (k : Nat) (hk : 0 < k) (ns : List Nat) (hsum : ns.sum ≤ content.length) :
    readAll (init content k) ns = sliceAll content ns := by
  have key : ∀ (ns : List Nat) (s : St), Inv s → ns.sum ≤ (pending s).length → readAll s ns = sliceAll (pending s) ns := by
    intro ns
    induction ns with
    | nil => intro s _ _; rfl
    | cons n ns ih =>
      intro s hi hs
      simp only [List.sum_cons] at hs
      obtain ⟨_, h2, h3, h4⟩ := stream_read_exact s n hi (by omega)
      simp only [readAll, sliceAll, h2]
      congr 1
      rw [← h3]
      apply ih _ h4
      rw [h3, List.length_drop]; omega
  have := key ns (init content k) (inv_init content k hk) (by simpa [pending, init] using hsum)
  simpa [pending, init] using this

/-! ### the JSON push parser (Model: JV.Model.JsonParser, tied state by state to json_parser.hpp by the `parser-model-pieces` stream) -/
/-- however a text is cut into pieces (any number of pieces, any sizes, empty pieces included), feeding the pieces one after the
    other and then signalling end of input gives the outcome of feeding the whole text: same events, same error code, same state -/
theorem json_chunk_independent (cfg : Model.JsonParser.Cfg) (chunks : List Bytes) : Model.JsonParser.runChunks cfg chunks = Model.JsonParser.run cfg chunks.flatten := by
  unfold Model.JsonParser.runChunks Model.JsonParser.run; rw [Model.JsonParser.feed_chunks]

/-- in particular for a two-way split at any offset -/
theorem json_split_independent (cfg : Model.JsonParser.Cfg) (text : Bytes) (i : Nat) :
    Model.JsonParser.runChunks cfg [text.take i, text.drop i] = Model.JsonParser.run cfg text := by
  rw [json_chunk_independent]; simp

/-- once an error is reported nothing that follows is looked at -/
theorem json_error_is_final (cfg : Model.JsonParser.Cfg) (s : Model.JsonParser.St) (more : Bytes) (h : s.err.isSome) : Model.JsonParser.feed cfg s more = s :=
  Model.JsonParser.feed_err cfg s more h

example : readAll (init [1, 2, 3, 4, 5, 6, 7] 3) [2, 4, 1] = [[1, 2], [3, 4, 5, 6], [7]] := by decide
example : (read (init [1, 2, 3] 2) 5).1 = 3 := by decide

example : (Model.JsonParser.runChunks ⟨8, false, false⟩ [[91, 49], [], [44, 50, 93]]).evs = (Model.JsonParser.run ⟨8, false, false⟩ [91, 49, 44, 50, 93]).evs ∧
    Model.JsonParser.accepted (Model.JsonParser.run ⟨8, false, false⟩ [91, 49, 44, 50, 93]) = true := by decide

end JV.Props.C03
