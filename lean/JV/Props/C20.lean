/-
  C20 — immutable artifacts are safe to share across threads.

  Data races are facts about the compiled program under the C++ memory model; no Lean model exhibits them, and the check observes
  them with ThreadSanitizer on the real library (checks/c20.py). What is logic is the consequence the property draws from
  immutability: if no step writes the shared artifact, then under *every* interleaving each thread ends with exactly the result it
  computes alone (`schedule_independent`), hence the same as single-threaded (`same_as_sequential`).
-/
import JV.Model.SharedReaders
namespace JV
namespace Props
namespace C20
open Model.SharedReaders

variable {A L : Type}

theorem getElem_setLocal_ne (ls : List L) {i j : Nat} (l : L) (h : j ≠ i) : (setLocal ls i l)[j]? = ls[j]? := by
  simp [setLocal, List.getElem?_set_ne (Ne.symm h)]

theorem getElem_setLocal_self (ls : List L) {i : Nat} (l : L) (h : i < ls.length) : (setLocal ls i l)[i]? = some l := by
  simp [setLocal, h]

/-- **Every interleaving.** After any schedule, thread `j` holds what it computes alone from its initial state with as many
    steps as the schedule gave it — whatever the other threads did in between. -/
theorem schedule_independent (step : StepFn A L) (a : A) : ∀ (sched : List Nat) (ls : List L) (j : Nat) (l : L),
    ls[j]? = some l → (run step a sched ls)[j]? = some (alone step a j (countOf j sched) l)
  | [], ls, j, l, h => by simpa [run, countOf, alone] using h
  | i :: sched, ls, j, l, h => by
    simp only [run]
    by_cases e : i = j
    · subst e
      rw [h]
      have hlt : i < ls.length := (List.getElem?_eq_some_iff.1 h).1
      have := schedule_independent step a sched (setLocal ls i (step a i l)) i (step a i l) (getElem_setLocal_self ls _ hlt)
      simpa [countOf, alone] using this
    · have hc : countOf j (i :: sched) = countOf j sched := by
        simp [countOf, e]
      rw [hc]
      cases hi : ls[i]? with
      | none => exact schedule_independent step a sched ls j l h
      | some li =>
        -- thread `i`'s step leaves thread `j`'s state where it was
        have hj : (setLocal ls i (step a i li))[j]? = some l := by
          rw [getElem_setLocal_ne ls _ (fun e' => e e'.symm)]
          exact h
        exact schedule_independent step a sched _ j l hj

/-- in particular two schedules that give thread `j` the same number of steps give it the same result: concurrent use returns what
    single-threaded use returns -/
theorem same_as_sequential (step : StepFn A L) (a : A) (s1 s2 : List Nat) (ls : List L) (j : Nat) (l : L)
    (h : ls[j]? = some l) (hc : countOf j s1 = countOf j s2) :
    (run step a s1 ls)[j]? = (run step a s2 ls)[j]? := by
  rw [schedule_independent step a s1 ls j l h, schedule_independent step a s2 ls j l h, hc]

/-! non-vacuity: two threads, three steps, an interleaving and the sequential order agree -/
example : run (fun (a : Nat) _ (l : Nat) => l + a) 5 [0, 1, 0] [0, 100] = run (fun (a : Nat) _ (l : Nat) => l + a) 5 [0, 0, 1] [0, 100] := by decide

end C20
end Props
end JV
