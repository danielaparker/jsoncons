/-
  C13 — JMESPath evaluation follows the JMESPath specification.

  `JV.Spec.JMESPath` is a reference interpreter written from the specification (not from jsoncons). The correspondence
  check evaluates generated (expression, document) pairs with the real library and with this interpreter and judges the
  library's value or error kind against it. What is proved here is about the reference itself: that it has the
  algebraic identities the specification implies, and that its slice rule coincides — for every start, stop, step and
  length — with the start/stop/step arithmetic the implementation executes (`Model.JsonPath.sliceIdx`, the code shared
  by jsoncons' JSONPath and JMESPath slices, itself proved equal to RFC 9535 / Python slicing in C12).
-/
import JV.Proofs.JMESPath
import JV.Proofs.JsonPathSlice
namespace JV
namespace Props
namespace C13
open Spec.JMESPath

/-- the result of a projection is an array without `null` elements, no longer than its input -/
theorem projection_drops_nulls (f : JVal → Except Err JVal) (xs : List JVal) (r : JVal) (h : projectWith f xs = .ok r) :
    ∃ ys, r = .arr ys ∧ (∀ y ∈ ys, y.isNull = false) ∧ ys.length ≤ xs.length := by
  induction xs generalizing r with
  | nil =>
    simp only [projectWith, Except.ok.injEq] at h
    exact ⟨[], h.symm, by simp, by simp⟩
  | cons x xs ih =>
    simp only [projectWith] at h
    cases hf : f x with
    | error e => simp [hf] at h
    | ok y =>
      simp only [hf] at h
      cases hp : projectWith f xs with
      | error e => simp [hp] at h
      | ok r' =>
        obtain ⟨ys, hr', hnn, hlen⟩ := ih r' hp
        subst hr'
        simp only [hp, Except.ok.injEq] at h
        by_cases hn : y.isNull = true
        · simp only [hn, if_true] at h
          exact ⟨ys, h.symm, hnn, by simp; omega⟩
        · simp only [hn] at h
          refine ⟨y :: ys, h.symm, ?_, by simp; omega⟩
          intro z hz
          rcases List.mem_cons.mp hz with rfl | hz
          · simpa using hn
          · exact hnn z hz

/-- a projection applied to anything but its container type is `null` (the specification's rule for `[*]`, `.*`, slices and filters) -/
theorem list_projection_of_non_array_is_null (rest : List Step) (v : JVal) (h : v.isArray = false) :
    evalSteps (.star :: rest) v = .ok .null := by
  cases v <;> simp_all [evalSteps, JVal.isArray]

theorem filter_of_non_array_is_null (c : Expr) (rest : List Step) (v : JVal) (h : v.isArray = false) :
    evalSteps (.filter c :: rest) v = .ok .null := by
  cases v <;> simp_all [evalSteps, JVal.isArray]

theorem slice_of_non_array_is_null (s : Slice) (rest : List Step) (v : JVal) (h : v.isArray = false) :
    evalSteps (.slice s :: rest) v = .ok .null := by
  cases v <;> simp_all [evalSteps, JVal.isArray]

theorem object_projection_of_non_object_is_null (rest : List Step) (v : JVal) (h : v.isObject = false) :
    evalSteps (.objStar :: rest) v = .ok .null := by
  cases v <;> simp_all [evalSteps, JVal.isObject]

theorem pipe_is_associative (a b c : Expr) (v : JVal) : eval (.pipe (.pipe a b) c) v = eval (.pipe a (.pipe b c)) v :=
  pipe_assoc a b c v

theorem double_negation_is_truthiness (e : Expr) (v : JVal) :
    eval (.not (.not e)) v = (match eval e v with | .error err => .error err | .ok x => .ok (.bool (truthy x))) := by
  simp only [eval]
  cases eval e v with
  | error err => rfl
  | ok x => simp [truthy]

theorem or_is_idempotent (e : Expr) (v : JVal) : eval (.or e e) v = eval e v := by
  simp only [eval]
  cases h : eval e v with
  | error err => rfl
  | ok x => by_cases t : truthy x = true <;> simp [t]
theorem and_is_idempotent (e : Expr) (v : JVal) : eval (.and e e) v = eval e v := by
  simp only [eval]
  cases h : eval e v with
  | error err => rfl
  | ok x => by_cases t : truthy x = true <;> simp [t]

theorem or_returns_truthy_left (a b : Expr) (v x : JVal) (h : eval a v = .ok x) (t : truthy x = true) :
    eval (.or a b) v = .ok x := by
  simp [eval, h, t]

theorem and_returns_falsy_left (a b : Expr) (v x : JVal) (h : eval a v = .ok x) (t : truthy x = false) :
    eval (.and a b) v = .ok x := by
  simp [eval, h, t]

theorem reverse_is_an_involution (xs : List JVal) :
    (applyFn .reverse [.arr xs]).bind (fun r => applyFn .reverse [r]) = .ok (.arr xs) := by
  show Except.ok (JVal.arr xs.reverse.reverse) = _
  rw [List.reverse_reverse]

theorem to_array_is_idempotent (v : JVal) :
    (applyFn .toArray [v]).bind (fun r => applyFn .toArray [r]) = applyFn .toArray [v] := by
  cases v <;> rfl

theorem sort_returns_a_sorted_permutation (is : List Int) :
    ∃ out : List Int, applyFn .sort [.arr (is.map .int)] = .ok (.arr (out.map .int)) ∧ out.Perm is ∧ out.Pairwise (· ≤ ·) := by
  have hall : allInts (is.map JVal.int) = some is := by
    induction is with
    | nil => rfl
    | cons i is ih => simp [allInts, ih]
  refine ⟨stableSort (fun a b => decide (a ≤ b)) is, ?_, stableSort_perm _ _, ?_⟩
  · unfold applyFn
    simp only [hall]
  · have := stableSort_sorted (fun (a b : Int) => decide (a ≤ b)) (fun a b => by simp; omega) (fun a b c h1 h2 => by simp at *; omega) is
    exact this.imp (by simp)

/-- **Slices.** For all integers: the reference's slice indices are those of the implementation's arithmetic, in order. -/
theorem slice_rule_is_implementation_arithmetic (s : Slice) (n : Nat) :
    sliceIndices s n = Model.JsonPath.sliceIdx { start := s.start, stop := s.stop, step := s.step } n := by
  have hmem : ∀ x, x ∈ sliceIndices s n ↔ (Spec.Rfc9535.Selected s.start s.stop s.step n (x : Int) ∧ x < n) := by
    intro x
    unfold sliceIndices Spec.Rfc9535.Selected
    by_cases hp : s.step > 0
    · have hn : ¬ s.step < 0 := by omega
      simp only [hp, if_true, hn, false_and, or_false, true_and, List.mem_filter, List.mem_range, decide_eq_true_eq,
        Int.dvd_iff_emod_eq_zero]
      exact and_comm
    · by_cases hm : s.step < 0
      · simp only [hp, if_false, hm, if_true, false_and, false_or, true_and, List.mem_reverse, List.mem_filter, List.mem_range,
          decide_eq_true_eq, Int.dvd_iff_emod_eq_zero]
        exact and_comm
      · have h0 : s.step = 0 := by omega
        simp [h0]
  have himpl : ∀ x, x ∈ Model.JsonPath.sliceIdx { start := s.start, stop := s.stop, step := s.step } n ↔
      (Spec.Rfc9535.Selected s.start s.stop s.step n (x : Int) ∧ x < n) := by
    intro x
    constructor
    · intro h
      exact ⟨(Model.JsonPath.sliceIdx_spec _ n x).mp h, Model.JsonPath.sliceIdx_lt _ n x h⟩
    · intro h
      exact (Model.JsonPath.sliceIdx_spec { start := s.start, stop := s.stop, step := s.step } n x).mpr h.1
  by_cases hp : s.step > 0
  · apply eq_of_pairwise_of_mem_iff (r := (· < ·)) (fun a b => by omega)
    · unfold sliceIndices
      simp only [hp, if_true]
      exact (List.pairwise_lt_range).filter _
    · exact Model.JsonPath.sliceIdx_ascending _ n hp
    · intro x; rw [hmem, himpl]
  · by_cases hm : s.step < 0
    · apply eq_of_pairwise_of_mem_iff (r := (· > ·)) (fun a b => by omega)
      · unfold sliceIndices
        simp only [hp, if_false, hm, if_true]
        rw [List.pairwise_reverse]
        exact ((List.pairwise_lt_range).filter _).imp (by intro a b h; exact h)
      · exact Model.JsonPath.sliceIdx_descending _ n hm
      · intro x; rw [hmem, himpl]
    · have h0 : s.step = 0 := by omega
      simp [sliceIndices, Model.JsonPath.sliceIdx, h0]

/-! executable sanity: tests of the reference -/
example : sliceIndices { start := none, stop := none, step := -2 } 5 = [4, 2, 0] := by decide
example : (applyFn .join [.str [44], .arr [.str [], .str [97], .str [98]]]) = .ok (.str [44, 97, 44, 98]) := by rfl
example : eval (.chain (.ident [97]) [.star, .field [98]]) (.obj [([97], .arr [.obj [([98], .int 1)], .obj [], .obj [([98], .null)]])])
    = .ok (.arr [.int 1]) := by rfl

end C13
end Props
end JV
