/-
  C10X — the translator tie for C10: the default resource limits, REGENERATED from the C++ source on every run
  (tools/extract.py → JV/Extracted/Defaults.lean: the `max_nesting_depth_` initialiser of json_options.hpp and of every
  *_options.hpp, UBJSON's `max_items_`), are the values the checks, the driver and the reference assume (1024 everywhere:
  Drv/JsonText.lean `maxDepth := 1024`, Props.C02.fl, checks/c10.py's "dump at depth ≥ 1024 is refused"; 2^24 items).
  A hypothesis `lookup maxNestingDepth "json" = some d` has exactly one solution: it only names the extracted constant.
-/
import JV.Proofs.JsonReference
import JV.Extracted.Lookup
import JV.Extracted.Defaults
namespace JV.Props.C10X
open JV JV.Extracted Spec.Rfc8259

/-- every format has a finite default nesting limit, the same one, 1024 -/
theorem default_nesting_depths :
    maxNestingDepth = [("json", 1024), ("cbor", 1024), ("msgpack", 1024), ("ubjson", 1024), ("bson", 1024), ("csv", 1024), ("toon", 1024)] := rfl

theorem default_nesting_depth_uniform : ∀ p ∈ maxNestingDepth, p.2 = 1024 := by
  rw [default_nesting_depths]
  decide

/-- UBJSON's default max_items is 2^24 (`1 << 24` in the source) -/
theorem ubjson_default_max_items : ubjsonMaxItems = 2 ^ 24 := by decide

/-- the reference parser run with the library's default limit accepts k+1 nested arrays iff k+1 ≤ 1024 — the default is what
    "accept 1024, refuse 1025" in the depth sweeps means -/
theorem default_limit_is_exact (d : Nat) (h : lookup maxNestingDepth "json" = some d) (c t : Bool) (k : Nat) :
    (parseText { comments := c, trailingComma := t, maxDepth := d } (nested k [])).isSome = decide (k + 1 ≤ 1024) := by
  have e : d = 1024 := Option.some.inj (h.symm.trans (by decide))
  subst e
  exact depth_limit_exact _ k

/-- the parser's initial capacities are below the limits they grow towards (a default-configured parser starts with room for 66 levels
    and a 256-character buffer; neither is a limit) -/
theorem initial_capacities : parserInitialStackCapacity = 66 ∧ parserInitialBufferCapacity = 256 ∧ parserInitialStackCapacity ≤ 1024
    ∧ toonFlattenDepth = 1024 := by decide

end JV.Props.C10X
