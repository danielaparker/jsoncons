/-
  C01 — JSON text round-trip is lossless and canonical.

  Proved here, for every input:
  (a) the string-escaping core. Model JV.Model.JsonEscape = `escape_string` of json_encoders.hpp (tied to the real
      function by the `jt esc` correspondence stream, including its error behaviour on malformed UTF-8 and both option
      flags); Spec reader = JV.Spec.Rfc8259.parseChars (the `char` production of RFC 8259 §7). With
      escape_all_non_ascii off, for EVERY byte string the escaped text is read back by a strict RFC 8259 string reader as
      exactly the original bytes, under either setting of escape_solidus (`escape_unescape`, `escape_total`, `u4_decodes`).
  (b) the serializers. Model JV.Model.JsonEncode = `basic_compact_json_encoder` (`compact`, `compactS sol`) and
      `basic_json_encoder` (`pretty o`: indent_size, indent_char, new_line_chars, spaces_around_colon/comma,
      pad_inside_object_braces/array_brackets, all five line-split options with all three kinds, line_length_limit,
      escape_solidus), over the value type of the reference parser (numbers by their printed text). Both are tied to
      `dump` / `dump_pretty` byte for byte by the `encoder-model` correspondence stream (values restricted to integers,
      bigint-tagged big numbers, valid UTF-8 strings of every escape class, arrays, objects of json and ojson).
      * `compact_parses_back` / `compactS_parses_back`: parse(dump v) = v — the RFC 8259 reference parser, under ANY
        flags (comments, trailing commas) and any depth limit ≥ depth v, reads the compact text of every well-formed v
        (number literals are RFC 8259 numbers, strings and member names valid UTF-8; any nesting, duplicate and empty
        member names included) back as exactly v; hence the output is strict RFC 8259 (flags all off).
      * `compact_canonical`: dump(parse(dump v)) = dump v.
      * `pretty_only_adds_whitespace` (+ `_wf`, `_default`): for every option record whose new_line_chars and indent_char
        are RFC 8259 white space, deleting white space outside string literals from the indented text gives the compact text.
      * `pretty_parses_back`, `pretty_canonical`: parse(dump_pretty v) = v and dump_pretty(parse(dump_pretty v)) =
        dump_pretty v for the same option records (every combination of the layout options), any parser flags.
      All of these are facts about "loose renderings" (the compact text with white space where the grammar allows it),
      Proofs/JsonEncodeLoose: both encoders write one, stripping one gives the compact text, the parser reads every one
      back. Proofs/JsonEncodeStrip has the white-space scanner, Proofs/JsonEncodeParse the well-formed values and how the
      parser reads scalars, Proofs/JsonNumberText that the number reader is local.

  NOT proved (observed per case on the real code, see evidence): the statements are about the Lean models and the Lean
  reference parser — that the models ARE the C++ encoders is checked byte for byte on the generated inputs only, and
  jsoncons' own parser is compared with the reference (C02), not modelled; option records whose new_line_chars / indent_char
  are not white space (the library accepts them; the output is then not JSON) are outside the theorems;
  escape_all_non_ascii = true (\uXXXX and surrogate-pair arithmetic; the escaper model covers it and is tied, the read-back
  is judged by the Lean reference reader on every generated string incl. U+FFFF/U+10000 boundaries; the encoder model fixes
  it to false); number printing (C04: the literal is taken as given here); noesc-tagged strings, byte strings, half floats,
  non-finite doubles, bignum_format other than raw.
-/
import JV.Proofs.JsonEscape
import JV.Proofs.JsonEncodeParse
import JV.Proofs.JsonEncodeStrip
import JV.Proofs.JsonEncodeLoose
namespace JV.Props.C01
open JV Model Model.JsonEscape Model.JsonEncode Spec.Rfc8259

/-- every byte string is escaped to text that a strict RFC 8259 string reader reads back as the original
    (escape_all_non_ascii = false, any escape_solidus; `e ++ "\"" ++ rest`: the reader stops at the closing quote) -/
theorem escape_unescape (sol : Bool) (s : Bytes) :
    ∃ e, escapeString false sol s = some e ∧
      ∀ rest, parseChars (e.length + 1) (e ++ 34 :: rest) = some (s, rest) :=
  ⟨_, escapeString_eq sol s, fun rest => escaped_reads_back sol s rest _ (Nat.le_refl _)⟩

/-- escaping never fails when escape_all_non_ascii is off (no UTF-8 decoding is attempted on bytes ≥ 0x80) -/
theorem escape_total (sol : Bool) (s : Bytes) : (escapeString false sol s).isSome = true := by
  rw [escapeString_eq]; rfl

/-- the four-digit form written for control characters decodes to the same code unit -/
theorem u4_decodes (cp : Nat) (h : cp < 65536) (rest : Bytes) :
    hex4 ((u4 cp).drop 2 ++ rest) = some (cp, rest) := by
  simpa [u4] using hex4_u4 cp h rest

/-! ### non-vacuity: every escape class at once -/
example : escapeString false true [34, 92, 47, 8, 12, 10, 13, 9, 1, 127, 65, 195, 169] =
    some [92, 34, 92, 92, 92, 47, 92, 98, 92, 102, 92, 110, 92, 114, 92, 116,
          92, 117, 48, 48, 48, 49, 92, 117, 48, 48, 55, 70, 65, 195, 169] := by decide +kernel
example : escapeString true false [240, 159, 152, 128] = some [92, 117, 68, 56, 51, 68, 92, 117, 68, 69, 48, 48] := by decide +kernel
example : escapeString true false [195] = none := by decide +kernel

/-- parse(dump v) = v: the RFC 8259 reference parser reads the compact encoder's text back as the value, for every
    well-formed v of any nesting, under any parser flags, provided the depth limit admits v -/
theorem compact_parses_back (fl : Flags) (v : JT) (hw : WF v) (hd : JsonEncode.depth v ≤ fl.maxDepth) :
    parseText fl (compact v) = some v :=
  JsonEncode.compactS_parses_back fl false v hw hd

/-- the same under either escape_solidus setting -/
theorem compactS_parses_back (fl : Flags) (sol : Bool) (v : JT) (hw : WF v) (hd : JsonEncode.depth v ≤ fl.maxDepth) :
    parseText fl (compactS sol v) = some v :=
  JsonEncode.compactS_parses_back fl sol v hw hd

/-- dump(parse(dump v)) = dump v, byte for byte -/
theorem compact_canonical (fl : Flags) (v : JT) (hw : WF v) (hd : JsonEncode.depth v ≤ fl.maxDepth) :
    (parseText fl (compact v)).map compact = some (compact v) := by
  rw [compact_parses_back fl v hw hd]; rfl

/-- the indenting encoder adds only white space outside string literals, whatever the layout options (indentation, new-line
    characters, spaces around ':' and ',', padding, line splits, line length limit). `plainNums v`: the number texts in `v` contain no white space and no quote. -/
theorem pretty_only_adds_whitespace (o : PrettyOpts) (ho : WsLayout o) (v : JT) (h : plainNums v = true) :
    stripWsOutsideStrings (pretty o v) = compactS o.solidus v := by
  obtain ⟨w, core, e, hw, hcore⟩ := encVal_loose o ho v none 0 0
  have := strip_loose o.solidus v core [] hcore h
  rw [stripWsOutsideStrings, pretty, e]
  simpa [elemComma, strip_ws _ _ hw, strip] using this

theorem pretty_only_adds_whitespace_wf (o : PrettyOpts) (ho : WsLayout o) (v : JT) (hw : WF v) :
    stripWsOutsideStrings (pretty o v) = compactS o.solidus v :=
  pretty_only_adds_whitespace o ho v (wf_plainNums v hw)

/-- with the default options of json_options -/
theorem pretty_only_adds_whitespace_default (v : JT) (hw : WF v) : stripWsOutsideStrings (pretty {} v) = compact v :=
  pretty_only_adds_whitespace_wf {} ⟨by decide, by decide⟩ v hw

/-- so the indented text, white space outside strings removed, parses back to v -/
theorem pretty_stripped_parses_back (fl : Flags) (o : PrettyOpts) (ho : WsLayout o) (v : JT) (hw : WF v)
    (hd : JsonEncode.depth v ≤ fl.maxDepth) : parseText fl (stripWsOutsideStrings (pretty o v)) = some v := by
  rw [pretty_only_adds_whitespace_wf o ho v hw]
  exact JsonEncode.compactS_parses_back fl o.solidus v hw hd

/-- parse(dump_pretty v) = v: the reference parser reads the indenting encoder's text back as the value, for every layout
    (indent, new-line characters, spaces, padding, the five line-split options, line length limit) and any parser flags -/
theorem pretty_parses_back (fl : Flags) (o : PrettyOpts) (ho : WsLayout o) (v : JT) (hw : WF v)
    (hd : JsonEncode.depth v ≤ fl.maxDepth) : parseText fl (pretty o v) = some v :=
  JsonEncode.pretty_parses_back fl o ho v hw hd

/-- dump_pretty(parse(dump_pretty v)) = dump_pretty v, byte for byte -/
theorem pretty_canonical (fl : Flags) (o : PrettyOpts) (ho : WsLayout o) (v : JT) (hw : WF v)
    (hd : JsonEncode.depth v ≤ fl.maxDepth) : (parseText fl (pretty o v)).map (pretty o) = some (pretty o v) := by
  rw [C01.pretty_parses_back fl o ho v hw hd]; rfl

/-! ### non-vacuity: {"a":[1,-2.5e3,"x\n",{"b":null}],"k":true} -/
def exDoc : JT :=
  .obj [([97], .arr [.num [49], .num [45, 50, 46, 53, 101, 51], .str [120, 10], .obj [([98], .null)]]), ([107], .bool true)]

example : WF exDoc := by decide +kernel
example : JsonEncode.depth exDoc = 3 := by decide +kernel
example : compact exDoc =
    [123, 34, 97, 34, 58, 91, 49, 44, 45, 50, 46, 53, 101, 51, 44, 34, 120, 92, 110, 34, 44, 123, 34, 98, 34, 58, 110, 117, 108, 108,
     125, 93, 44, 34, 107, 34, 58, 116, 114, 117, 101, 125] := by decide +kernel
example : parseText ⟨false, false, 3⟩ (compact exDoc) = some exDoc :=
  compact_parses_back _ _ (by decide +kernel) (by decide +kernel)
/-- default options: four spaces, one member / element per line, ", " and ": " -/
example : pretty {} exDoc =
    [123, 10, 32, 32, 32, 32, 34, 97, 34, 58, 32, 91, 10, 32, 32, 32, 32, 32, 32, 32, 32, 49, 44, 32, 10, 32, 32, 32, 32, 32, 32, 32, 32,
     45, 50, 46, 53, 101, 51, 44, 32, 10, 32, 32, 32, 32, 32, 32, 32, 32, 34, 120, 92, 110, 34, 44, 32, 10, 32, 32, 32, 32, 32, 32, 32, 32,
     123, 10, 32, 32, 32, 32, 32, 32, 32, 32, 32, 32, 32, 32, 34, 98, 34, 58, 32, 110, 117, 108, 108, 10, 32, 32, 32, 32, 32, 32, 32, 32,
     125, 10, 32, 32, 32, 32, 93, 44, 32, 10, 32, 32, 32, 32, 34, 107, 34, 58, 32, 116, 114, 117, 101, 10, 125] := by decide +kernel
/-- same_line splits, line_length_limit 12, CR LF, padded brackets, " ," commas (checked against dump_pretty) -/
example : pretty { indentSize := 2, colon := 0, comma := 2, padArr := true, aa := 2, oa := 2, ao := 2, oo := 2, limit := 12, newLine := [13, 10] } exDoc =
    [123, 13, 10, 32, 32, 34, 97, 34, 58, 91, 32, 49, 32, 44, 45, 50, 46, 53, 101, 51, 32, 44, 13, 10, 32, 32, 32, 32, 34, 120, 92, 110, 34,
     32, 44, 13, 10, 32, 32, 32, 32, 123, 34, 98, 34, 58, 110, 117, 108, 108, 125, 13, 10, 32, 32, 32, 93, 32, 44, 13, 10, 32, 32, 34, 107,
     34, 58, 116, 114, 117, 101, 13, 10, 125] := by decide +kernel
example : parseText ⟨true, true, 3⟩
    (pretty { indentSize := 2, colon := 0, comma := 2, padArr := true, aa := 2, oa := 2, ao := 2, oo := 2, limit := 12, newLine := [13, 10] } exDoc) =
    some exDoc :=
  C01.pretty_parses_back _ _ (by decide +kernel) _ (by decide +kernel) (by decide +kernel)
example : stripWsOutsideStrings (pretty {} exDoc) = compact exDoc :=
  pretty_only_adds_whitespace_default exDoc (by decide +kernel)
/-- white space inside a string literal is kept by the stripping function -/
example : stripWsOutsideStrings [91, 32, 34, 32, 92, 34, 32, 34, 32, 93] = [91, 34, 32, 92, 34, 32, 34, 93] := by decide +kernel
/-- the hypotheses matter: an ill-formed number text is not read back -/
example : parseText ⟨false, false, 8⟩ (compact (.arr [.num [48, 49]])) = none := by decide +kernel

end JV.Props.C01
