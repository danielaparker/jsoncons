/-
  C06 — binary formats round-trip the data model.

  Proved here (CBOR, the data-model core): Model JV.Model.Cbor.encode = what `encode_cbor` writes for
  null / bool / every int64 and uint64 / doubles (incl. the "float32 when exact" shortcut) / UTF-8 text
  / byte strings / arrays / maps at any nesting — tied to the real encoder BYTE FOR BYTE by the
  `cbor-encoder-model` correspondence stream. For every such value the RFC 8949 reference decoder
  (JV.Spec.Cbor, the same one the real decoder is compared with in C07) reads the bytes back as exactly
  that value and leaves any following bytes untouched. Length and integer boundaries (23/24, 2^8,
  2^16, 2^32, 2^64) are inside the theorem, not sampled.

  Big floats (CBOR tag 5, carried by jsoncons as the text "[-]0x<hex mantissa>p[-]<hex exponent>"; JV.Model.BigFloat, tied byte for
  byte by the `cbor-bigfloat-model` stream): for every mantissa - on either side of the int64 / bignum line - and every int64 exponent,
  the text the decoder renders is read back by the encoder as the same pair (`bigfloat_text_roundtrip`), and the bytes the encoder writes
  denote that pair under RFC 8949 §3.4.4 (`bigfloat_bytes_roundtrip`; D79: before commit a498968 jsoncons rendered a bignum mantissa as garbled text).

  Proved here (MessagePack, the data-model core): Model JV.Model.Msgpack.encode = what `encode_msgpack` writes for null / bool /
  every int64 and uint64 (positive fixint, uint8/16/32/64, negative fixint, int8/16/32/64) / doubles (float32 when exact, else float64)
  / UTF-8 text (fixstr, str8/16/32) / byte strings (bin8/16/32) / arrays (fixarray, array16/32) / maps (fixmap, map16/32) at any
  nesting — tied to the real encoder BYTE FOR BYTE by the `msgpack-encoder-model` correspondence stream (every integer-width and
  length boundary up to 2^16 with both neighbours; 2^32-byte payloads are not run). For every such value with lengths below 2^32
  (the widest length field of the format) the reference MessagePack decoder (JV.Spec.Msgpack, the one the real decoder is judged
  by in C07) reads the bytes back as exactly that value and leaves any following bytes untouched (`msgpack_roundtrip`); the integer
  ladder is covered for every integer in [-2^63, 2^64) by case split (`msgpack_int_head_roundtrip`, `msgpack_int_width`).
  Not in the theorem: timestamps (ext -1), other ext types, bigint/bigdec strings (plain text in MessagePack), and what
  the real encoder does for a length >= 2^32 (it writes NO head at all - the model reproduces that, `OKm` excludes it).

  Proved here (UBJSON, the data-model core): Model JV.Model.Ubjson.encode = what `encode_ubjson` writes for null / bool / every
  int64 ('U' 'i' 'I' 'l' 'L'; an integer above 2^63-1 is refused by both) / doubles ('d' when exact, else 'D') / text ('S' + length
  as an integer item) / byte strings (the typed array `[$U#n`) / counted arrays `[#n` / counted objects `{#n` at any nesting -
  tied to the real encoder BYTE FOR BYTE (and refusal for refusal) by the `ubjson-encoder-model` stream. For every such value with
  lengths below 2^63 the reference UBJSON decoder (JV.Spec.Ubjson, the one used in C07) reads the bytes back as the documented image
  (a byte string comes back as the array of its bytes; everything else as itself) and leaves what follows untouched
  (`ubjson_roundtrip`); integers by case split over [-2^63, 2^63) (`ubjson_int_roundtrip`), lengths over [0, 2^63)
  (`ubjson_length_roundtrip`). Not in the theorem: high-precision numbers ('H', bigint/bigdec strings), indefinite containers
  (the real encoder only writes them when driven event by event without a length).

  Proved here (BSON, the data-model core): Model JV.Model.Bson.encode = what `encode_bson` writes for a document root AND for an
  array root (bson_encoder.hpp accepts it and writes the document keyed "0", "1", …; a scalar root is refused with
  expected_bson_document by both) holding null / bool / every int64 (0x10 int32 when INT32_MIN <= v <= INT32_MAX, else 0x12 int64; an
  integer above 2^63-1 is refused by both) / doubles (0x01, the 64 bits little-endian, NaN payloads included - there is no float32
  shortcut) / text (0x02, int32 length counting the terminator, the text, 0x00; text that is not UTF-8 is refused by both) / byte
  strings (0x05, int32 length, subtype 0x80) / arrays (0x04, a document whose names are std::to_string(index)) / documents (0x03) at
  any nesting up to max_nesting_depth = 1024 (deeper is refused by both) - element names as C strings, every document's total length
  back-patched as a little-endian int32 that counts itself and the trailing 0x00 - tied to the real encoder BYTE FOR BYTE and refusal
  for refusal by the `bson-encoder-model` stream (int32/int64 boundaries with both neighbours, empty documents and arrays, arrays of
  0…13 / 99…101 / 999…1001 items, nested arrays, multi-byte UTF-8 in values and names, U+0000 inside a text value, nesting 1023…1025).
  For every value in `OKb` (root a container; names without 0x00 and in UTF-8; integers in [-2^63, 2^63); UTF-8 text; the whole
  document shorter than 2^31 bytes; depth <= 1024) the reference BSON decoder (JV.Spec.Bson, the one used in C07; its own entry point
  `decode` included, `bson_roundtrip_decode`) reads the bytes back as the documented image - everything itself, a byte string marked
  "ext", a ROOT array as the document keyed by its indices - and leaves what follows untouched (`bson_roundtrip`); `OKb` lies inside
  what the encoder accepts (`bson_domain_accepted`); int32 iff in range (`bson_int_width`); the length field (`bson_length_field`).
  Outside `OKb`: an element name containing 0x00 is refused by the real encoder (invalid_utf8_text_string, D89; the model's
  `representable` says so); the bytes the model's `encode` computes for {"a\0b": null} are not well-formed BSON (example below).
  Not in the theorem: datetime / decimal128 / ObjectId / regex / code (tagged values), binary subtypes other than 0x80.

  Decided per case on the real code, not proved: the other semantic tags, string packing (stringref; D26),
  typed arrays, MessagePack timestamps, UBJSON high-precision numbers, and the BSON round trip of tagged
  values under its documented mapping (see the check's streams).
-/
import JV.Proofs.CborRoundtrip
import JV.Proofs.BigFloat
import JV.Proofs.MsgpackRoundtrip
import JV.Proofs.UbjsonRoundtrip
import JV.Proofs.BsonRoundtrip
namespace JV.Props.C06
open JV Model.Cbor Spec.Cbor

/-- encode then decode is the identity on the CBOR core, for all values, whatever follows the item -/
theorem cbor_roundtrip (v : CV) (hv : OK v) (rest : Bytes) :
    ∃ fuel, item fuel none (encode v ++ rest) = .ok (toBV v) rest :=
  ⟨need v, enc_dec v rest (need v) hv (Nat.le_refl _)⟩

/-- … at every fuel from `need v` up -/
theorem cbor_roundtrip_any_fuel (v : CV) (hv : OK v) (rest : Bytes) (fuel : Nat) (hf : need v ≤ fuel) :
    item fuel none (encode v ++ rest) = .ok (toBV v) rest :=
  enc_dec v rest fuel hv hf

/-- the head (major type + argument) written for any length or integer below 2^64 is read back exactly:
    every width boundary is covered by the case split, none is sampled -/
theorem header_roundtrip (major n : Nat) (hm : major < 8) (hn : n < 2 ^ 64) (rest : Bytes) :
    ∃ ib tail, writeHead major n ++ rest = ib :: tail ∧ ib / 32 = major ∧ readArg (ib % 32) tail = some (n, rest) := by
  obtain ⟨ib, tail, h1, h2, _, h4⟩ := head_read major n hm hn rest
  exact ⟨ib, tail, h1, h2, h4⟩

/-- the float32 shortcut (`(float)val`, `(double)valf == val`) loses nothing: every double outside the
    binary32-subnormal exponent band satisfies the side condition of `cbor_roundtrip` -/
theorem float32_shortcut_lossless (b : Nat) (hb : b < 2 ^ 64)
    (hsub : ¬ (874 ≤ b / 2 ^ 52 % 2048 ∧ b / 2 ^ 52 % 2048 ≤ 896)) : DoubleOK b := by
  refine ⟨hb, fun f hf => ?_⟩
  -- the sign, exponent and fraction of the double get names; `narrowF32` speaks of nothing else
  have hfields : b = b / 2 ^ 63 * 2 ^ 63 + b / 2 ^ 52 % 2048 * 2 ^ 52 + b % 2 ^ 52 := by omega
  have hs : b / 2 ^ 63 < 2 := by omega
  have he : b / 2 ^ 52 % 2048 < 2048 := by omega
  have hm : b % 2 ^ 52 < 2 ^ 52 := by omega
  unfold narrowF32 at hf
  simp only [] at hf
  generalize b / 2 ^ 63 = s at *
  generalize b / 2 ^ 52 % 2048 = e at *
  generalize b % 2 ^ 52 = m at *
  by_cases h1 : e = 2047
  · rw [if_pos h1] at hf
    by_cases hm0 : m = 0
    · rw [if_pos hm0] at hf
      cases hf
      refine ⟨by omega, ?_⟩
      rw [f32ToF64_fields s 255 0 (by omega) (by omega) (by omega) (by omega), if_pos rfl]
      omega
    · rw [if_neg hm0] at hf
      cases hf
  rw [if_neg h1] at hf
  by_cases h0 : e = 0
  · rw [if_pos h0] at hf
    by_cases hm0 : m = 0
    · rw [if_pos hm0] at hf
      cases hf
      refine ⟨by omega, ?_⟩
      rw [f32ToF64_fields s 0 0 (by omega) (by omega) (by omega) (by omega), if_neg (by omega), if_pos rfl]
      omega
    · rw [if_neg hm0] at hf
      cases hf
  rw [if_neg h0] at hf
  by_cases hn : 897 ≤ e ∧ e ≤ 1150
  · rw [if_pos hn] at hf
    by_cases hm0 : m % 2 ^ 29 = 0
    · rw [if_pos hm0] at hf
      cases hf
      refine ⟨by omega, ?_⟩
      rw [f32ToF64_fields s (e - 896) (m / 2 ^ 29) rfl (by omega) (by omega) (by omega), if_neg (by omega), if_neg (by omega)]
      omega
    · rw [if_neg hm0] at hf
      cases hf
  · rw [if_neg hn, if_neg hsub] at hf
    cases hf

/-- NaNs are never narrowed (they compare unequal to everything), so they travel as 64-bit patterns, bit for bit -/
theorem nan_not_narrowed (b : Nat) (he : b / 2 ^ 52 % 2048 = 2047) (hm : b % 2 ^ 52 ≠ 0) : narrowF32 b = none := by
  simp [narrowF32, he, hm]

/-- big floats: the decoder's text for (mantissa, exponent) is parsed back by the encoder as exactly that pair -/
theorem bigfloat_text_roundtrip (m e : Int) : Model.BigFloat.parse (Model.BigFloat.render m e) = some (m, e) :=
  Model.BigFloat.parse_render m e

/-- big floats: the bytes written for (mantissa, exponent) - integer or bignum mantissa - are read back, under RFC 8949 §3.4.4, as that
    pair, leaving what follows untouched. `hlen` says the mantissa's magnitude is shorter than 2^64 bytes (a CBOR length must fit 64 bits). -/
theorem bigfloat_bytes_roundtrip (m e : Int) (he : Model.BigFloat.fitsInt64 e = true)
    (hlen : (Model.BigFloat.beMag (if m ≥ 0 then m.toNat else (-1 - m).toNat)).length < 2 ^ 64) (rest : Bytes) :
    ∃ bytes, Model.BigFloat.encodeBigfloat m e = some bytes ∧ Model.BigFloat.decodeBigfloat (bytes ++ rest) = some ((m, e), rest) := by
  refine ⟨_, by simp [Model.BigFloat.encodeBigfloat, he]; rfl, ?_⟩
  simp only [List.cons_append, List.append_assoc, Model.BigFloat.decodeBigfloat]
  rw [Model.BigFloat.readInt_writeInt e he]
  by_cases hm : Model.BigFloat.fitsInt64 m = true
  · simp only [hm, if_true]; rw [Model.BigFloat.readMantissa_writeInt m hm]
  · have hm' : Model.BigFloat.fitsInt64 m = false := by simpa using hm
    simp only [hm', Bool.false_eq_true, if_false]; rw [Model.BigFloat.readMantissa_bignum m hlen]

/-- … and so text → bytes → pair: encoding the rendered text denotes the pair the text was rendered from -/
theorem bigfloat_render_encode_decode (m e : Int) (he : Model.BigFloat.fitsInt64 e = true)
    (hlen : (Model.BigFloat.beMag (if m ≥ 0 then m.toNat else (-1 - m).toNat)).length < 2 ^ 64) :
    ∃ bytes, Model.BigFloat.encodeText (Model.BigFloat.render m e) = some bytes ∧
             Model.BigFloat.decodeBigfloat bytes = some ((m, e), []) := by
  obtain ⟨bytes, h1, h2⟩ := bigfloat_bytes_roundtrip m e he hlen []
  exact ⟨bytes, by simp [Model.BigFloat.encodeText, bigfloat_text_roundtrip, h1], by simpa using h2⟩

/-! ### MessagePack -/

/-- the documented mapping from the data-model core to what the reference decoders deliver (no tags on the core) -/
abbrev toValue : CV → BV := toBV

/-- encode then decode is the identity on the MessagePack image of the core, for ALL values (any nesting), whatever follows the item -/
theorem msgpack_roundtrip (v : CV) (hv : Model.Msgpack.OKm v) (rest : Bytes) :
    ∃ fuel, Spec.Msgpack.item fuel (Model.Msgpack.encode v ++ rest) = .ok (toValue v) rest :=
  ⟨need v, Model.Msgpack.enc_dec v rest (need v) hv (Nat.le_refl _)⟩

/-- … at every fuel from `need v` up -/
theorem msgpack_roundtrip_any_fuel (v : CV) (hv : Model.Msgpack.OKm v) (rest : Bytes) (fuel : Nat) (hf : need v ≤ fuel) :
    Spec.Msgpack.item fuel (Model.Msgpack.encode v ++ rest) = .ok (toValue v) rest :=
  Model.Msgpack.enc_dec v rest fuel hv hf

/-- every integer in [-2^63, 2^64) - all ten rungs of the ladder by case split, none sampled - is read back as itself -/
theorem msgpack_int_head_roundtrip (i : Int) (hlo : -(2 ^ 63 : Int) ≤ i) (hhi : i < 2 ^ 64) (rest : Bytes) (fuel : Nat) :
    Spec.Msgpack.item (fuel + 1) (Model.Msgpack.writeInt i ++ rest) = .ok (.int i "") rest :=
  Model.Msgpack.item_int fuel i rest hlo hhi

/-- the integer ladder never writes more than the value needs: 1, 2, 3, 5 or 9 bytes, chosen by magnitude -/
theorem msgpack_int_width (i : Int) :
    (Model.Msgpack.writeInt i).length =
      if -32 ≤ i ∧ i ≤ 127 then 1 else if -128 ≤ i ∧ i ≤ 255 then 2 else if -32768 ≤ i ∧ i ≤ 65535 then 3
      else if -2147483648 ≤ i ∧ i ≤ 4294967295 then 5 else 9 := by
  simp only [Model.Msgpack.writeInt, apply_ite List.length, List.length_cons, List.length_nil, length_beBytes]
  -- both sides are ladders of literals now; on either side of zero half of the right-hand conditions hold trivially,
  -- and what is left of them is the left-hand ladder
  by_cases hv : i ≥ 0
  · have h (c : Int) (hc : c ≤ 0) : (c ≤ i) = True := eq_true (by omega)
    have ht (n : Nat) : (i.toNat ≤ n) = (i ≤ n) := propext (by omega)
    simp only [if_pos hv, h (-32) (by omega), h (-128) (by omega), h (-32768) (by omega), h (-2147483648) (by omega), ht, true_and]
    rfl
  · have h (c : Int) (hc : 0 ≤ c) : (i ≤ c) = True := eq_true (by omega)
    simp only [if_neg hv, h 127 (by omega), h 255 (by omega), h 65535 (by omega), h 4294967295 (by omega), and_true, ge_iff_le]

/-- text of any length below 2^32 (fixstr / str8 / str16 / str32 chosen by the ladder) is read back exactly -/
theorem msgpack_text_roundtrip (s rest : Bytes) (hl : s.length < 2 ^ 32) (hv : Spec.Rfc8259.validUtf8 s = true) (fuel : Nat) :
    Spec.Msgpack.item (fuel + 1) (Model.Msgpack.strHead s.length ++ s ++ rest) = .ok (.str s "") rest :=
  Model.Msgpack.item_text fuel s rest hl hv

/-- byte strings of any length below 2^32 (bin8 / bin16 / bin32) are read back exactly -/
theorem msgpack_bytes_roundtrip (b rest : Bytes) (hl : b.length < 2 ^ 32) (fuel : Nat) :
    Spec.Msgpack.item (fuel + 1) (Model.Msgpack.binHead b.length ++ b ++ rest) = .ok (.bytes b "") rest :=
  Model.Msgpack.item_bytes fuel b rest hl

/-- the array and map heads announce exactly the element count that was written, for every count below 2^32 -/
theorem msgpack_container_heads (n : Nat) (hn : n < 2 ^ 32) (body : Bytes) (fuel : Nat) :
    Spec.Msgpack.item (fuel + 1) (Model.Msgpack.arrHead n ++ body) = Spec.Msgpack.wrapArr (Spec.Msgpack.items fuel n body) ∧
    Spec.Msgpack.item (fuel + 1) (Model.Msgpack.mapHead n ++ body) = Spec.Msgpack.wrapMap (Spec.Msgpack.members fuel n body) :=
  ⟨Model.Msgpack.item_arrHead fuel n body hn, Model.Msgpack.item_mapHead fuel n body hn⟩

/-- doubles: the 64-bit pattern comes back bit for bit (also through the float32 shortcut, when `DoubleOK`) -/
theorem msgpack_double_roundtrip (b : Nat) (h : DoubleOK b) (rest : Bytes) (fuel : Nat) :
    Spec.Msgpack.item (fuel + 1) (Model.Msgpack.encodeDouble b ++ rest) = .ok (.dbl b "") rest :=
  Model.Msgpack.item_double fuel b rest h

/-! ### UBJSON -/

abbrev toValueUbjson : CV → BV := Model.Ubjson.toBVu

/-- encode then decode is the documented mapping on the UBJSON image of the core, for ALL values (any nesting), whatever follows:
    the bytes written start with a type marker `m`, and the reference decoder, having read `m`, delivers the value and leaves `rest` -/
theorem ubjson_roundtrip (v : CV) (hv : Model.Ubjson.OKu v) (rest : Bytes) :
    ∃ fuel m r, Model.Ubjson.encode v ++ rest = m :: r ∧ Spec.Ubjson.valueOf fuel m r = .ok (toValueUbjson v) rest := by
  obtain ⟨m, r, he, _, h⟩ := Model.Ubjson.item_ok_cons (Model.Ubjson.enc_dec v rest (Model.Ubjson.needU v) hv (Nat.le_refl _))
  exact ⟨Model.Ubjson.needU v, m, r, he, h⟩

/-- … at every fuel from `needU v` up -/
theorem ubjson_roundtrip_any_fuel (v : CV) (hv : Model.Ubjson.OKu v) (rest : Bytes) (fuel : Nat) (hf : Model.Ubjson.needU v ≤ fuel) :
    Model.Ubjson.item fuel (Model.Ubjson.encode v ++ rest) = .ok (toValueUbjson v) rest :=
  Model.Ubjson.enc_dec v rest fuel hv hf

/-- `Model.Ubjson.item` is the reference decoder's entry point with the fuel made explicit -/
theorem ubjson_item_is_decode (s : Bytes) : Spec.Ubjson.decode s = Model.Ubjson.item (3 * s.length + 3) s :=
  Model.Ubjson.decode_eq_item s

/-- every integer in [-2^63, 2^63) - 'U', 'i', 'I', 'l', 'L' on either side of zero, by case split - is read back as itself -/
theorem ubjson_int_roundtrip (i : Int) (hlo : -(2 ^ 63 : Int) ≤ i) (hhi : i < 2 ^ 63) (rest : Bytes) (fuel : Nat) :
    Model.Ubjson.item (fuel + 1) (Model.Ubjson.writeInt i ++ rest) = .ok (.int i "") rest :=
  Model.Ubjson.item_int fuel i rest hlo hhi

/-- a length or count (written as an integer item by `put_length`) is read back exactly, for every length below 2^63 -/
theorem ubjson_length_roundtrip (n : Nat) (h : n < 2 ^ 63) (rest : Bytes) :
    Spec.Ubjson.length (Model.Ubjson.putLength n ++ rest) = some (n, rest) :=
  Model.Ubjson.length_putLength n h rest

/-- on an integer `representable` asks only for `i < 2^63` (UBJSON has no uint64; the real encoder answers number_too_large from
    2^63 up); there is no lower test, an int64 is never below -2^63 -/
theorem ubjson_representable_int (i : Int) : Model.Ubjson.representable (.int i) = true ↔ i < 2 ^ 63 := by
  simp [Model.Ubjson.representable]

/-! ### BSON -/

/-- the documented BSON mapping: everything itself, except that a byte string (written with the user-defined binary subtype 0x80)
    comes back marked "ext", a nested array (a document keyed "0", "1", …) comes back as the array of its values, and a ROOT array
    comes back as what it was written as: the document keyed by its indices -/
abbrev toValueBson : CV → BV := Model.Bson.toBVRoot

/-- encode then decode is the documented mapping on the BSON image of the core, for ALL values (any nesting), whatever follows the
    document -/
theorem bson_roundtrip (v : CV) (hv : Model.Bson.OKb v) (rest : Bytes) :
    ∃ fuel bytes, Model.Bson.encode v = some bytes ∧ Spec.Bson.decodeWith fuel (bytes ++ rest) = .ok (toValueBson v) rest := by
  obtain ⟨b, h1, h2⟩ := Model.Bson.enc_dec v hv rest (Model.Bson.needV v) (Nat.le_refl _)
  exact ⟨_, b, h1, h2⟩

/-- … at every fuel from `needV v` up -/
theorem bson_roundtrip_any_fuel (v : CV) (hv : Model.Bson.OKb v) (rest : Bytes) (fuel : Nat) (hf : Model.Bson.needV v ≤ fuel) :
    ∃ bytes, Model.Bson.encode v = some bytes ∧ Spec.Bson.decodeWith fuel (bytes ++ rest) = .ok (toValueBson v) rest :=
  Model.Bson.enc_dec v hv rest fuel hf

/-- … in particular the fuel the reference decoder's entry point gives itself is enough: `Spec.Bson.decode`, the very function the
    real decoder is compared with in C07, reads the encoder's bytes back -/
theorem bson_roundtrip_decode (v : CV) (hv : Model.Bson.OKb v) (rest : Bytes) :
    ∃ bytes, Model.Bson.encode v = some bytes ∧ Spec.Bson.decode (bytes ++ rest) = .ok (toValueBson v) rest :=
  Model.Bson.decode_encode v hv rest

/-- the domain of the theorem lies inside what the encoder accepts (the model's `representable` is what the driver answers "err"
    by, refusal for refusal with the real encoder) -/
theorem bson_domain_accepted (v : CV) (hv : Model.Bson.OKb v) : Model.Bson.representable v = true :=
  by simp [Model.Bson.representable, hv.1, Model.Bson.scalarsOK_of_OKv v hv.2.1, hv.2.2.2]

/-- int32 exactly when the value is in [INT32_MIN, INT32_MAX], int64 otherwise: type byte and width -/
theorem bson_int_width (i : Int) :
    (Model.Bson.typeCode (.int i), (Model.Bson.value (.int i)).length) =
      if -2147483648 ≤ i ∧ i ≤ 2147483647 then (0x10, 4) else (0x12, 8) := by
  by_cases h : -2147483648 ≤ i ∧ i ≤ 2147483647
  · simp [Model.Bson.typeCode, Model.Bson.value, Model.Bson.fitsInt32, h, Model.Bson.int32Bytes, Model.Bson.length_leBytes]
  · simp [Model.Bson.typeCode, Model.Bson.value, Model.Bson.fitsInt32, h, Model.Bson.int64Bytes, Model.Bson.length_leBytes]

/-- every integer in [-2^63, 2^63), whichever width was chosen, is read back as itself (as the value of an element `name`) -/
theorem bson_int_roundtrip (i : Int) (hlo : -(2 ^ 63 : Int) ≤ i) (hhi : i < 2 ^ 63) (name tl : Bytes) (ms : List (Bytes × BV)) (fuel : Nat)
    (hn : Model.Bson.NameOK name) (hr : Spec.Bson.elements fuel tl = .ok ms []) :
    Spec.Bson.elements (fuel + 1) (Model.Bson.typeCode (.int i) :: (name ++ 0 :: (Model.Bson.value (.int i) ++ tl))) =
      .ok ((name, .int i "") :: ms) [] :=
  Model.Bson.value_el (.int i) name tl ms fuel (by simpa [Model.Bson.OKv] using And.intro hlo hhi) hn
    (by by_cases h : Model.Bson.fitsInt32 i = true <;>
        simp [Model.Bson.value, h, Model.Bson.int32Bytes, Model.Bson.int64Bytes, Model.Bson.length_leBytes])
    (by simp [Model.Bson.needV]) hr

/-- the back-patched length field: the first four bytes of a finished document, read little-endian, are its total length (the four
    bytes themselves and the trailing 0x00 included), and the last byte is 0x00 -/
theorem bson_length_field (body : Bytes) (h : body.length + 5 < 2 ^ 32) :
    Spec.leVal ((Model.Bson.doc body).take 4) = (Model.Bson.doc body).length ∧ (Model.Bson.doc body).getLast? = some 0 := by
  constructor
  · have : (Model.Bson.doc body).take 4 = Model.Bson.leBytes 4 (body.length + 5) := by
      have h4 : 4 = (Model.Bson.leBytes 4 (body.length + 5)).length := by simp [Model.Bson.length_leBytes]
      simp only [Model.Bson.doc, List.append_assoc]
      conv => lhs; rw [h4]
      exact List.take_left
    rw [this, Model.Bson.leVal_leBytes 4 _ h, Model.Bson.length_doc]
  · simp [Model.Bson.doc]

/-- a scalar root is refused (expected_bson_document); an array root is written as the document keyed by its indices -/
theorem bson_root (v : CV) :
    Model.Bson.encode v = match v with
      | .map ms => some (Model.Bson.doc (Model.Bson.mapBody ms))
      | .arr xs => some (Model.Bson.doc (Model.Bson.arrBody 0 xs))
      | _ => none := by
  cases v <;> rfl

/-- array items are named by their index in decimal: "0" … "9", "10", "11", … -/
example : (List.range 13).map Model.Bson.indexName =
    [[48], [49], [50], [51], [52], [53], [54], [55], [56], [57], [49, 48], [49, 49], [49, 50]] := by decide +kernel
example : Model.Bson.indexName 1000 = [49, 48, 48, 48] := by decide +kernel

/-! ### non-vacuity -/
/-- "0x10000000000000000p-3" -/
example : Model.BigFloat.render (2 ^ 64) (-3) = [48, 120, 49, 48, 48, 48, 48, 48, 48, 48, 48, 48, 48, 48, 48, 48, 48, 48, 48, 112, 45, 51] := by
  decide +kernel
/-- "-0x18p3" is written as tag 5 [3, -24] -/
example : Model.BigFloat.encodeText [45, 48, 120, 49, 56, 112, 51] = some [0xc5, 0x82, 0x03, 0x37] := by
  decide +kernel
/-- a mantissa of 2^64 travels as a bignum (tag 2, nine bytes) -/
example : Model.BigFloat.encodeBigfloat (2 ^ 64) (-3) = some [0xc5, 0x82, 0x22, 0xc2, 0x49, 1, 0, 0, 0, 0, 0, 0, 0, 0] := by
  decide +kernel
def sample : CV := .map [([97], .arr [.int 23, .int 24, .int (-1), .int (2 ^ 64 - 1), .int (-(2 ^ 63))]),
                          ([195, 169], .str [240, 159, 152, 128]), ([98], .bytes [0, 255]), ([99], .map []), ([100], .null)]
example : OK sample := by
  simp only [sample, OK, OKList, OKMembers]
  decide +kernel
example : encode (.arr [.int 23, .int 24, .str [97]]) = [0x83, 0x17, 0x18, 0x18, 0x61, 0x61] := by decide +kernel
example : encodeDouble 0x3ff8000000000000 = [0xfa, 0x3f, 0xc0, 0, 0] := by decide +kernel
example : encodeDouble 0x3ff199999999999a = [0xfb, 0x3f, 0xf1, 0x99, 0x99, 0x99, 0x99, 0x99, 0x9a] := by decide +kernel

/-! MessagePack: the sample is in the domain, the model writes the bytes of the specification's examples, and the reference decoder
    reads the sample's bytes back (computed, not assumed) -/
example : Model.Msgpack.OKm sample := by
  simp only [sample, Model.Msgpack.OKm, Model.Msgpack.OKmList, Model.Msgpack.OKmMembers]
  decide +kernel
example : Model.Msgpack.encode (.arr [.int 127, .int 128, .int (-32), .int (-33), .int 65536, .str [97], .bytes [1], .null, .bool true]) =
    [0x99, 0x7f, 0xcc, 0x80, 0xe0, 0xd0, 0xdf, 0xce, 0, 1, 0, 0, 0xa1, 0x61, 0xc4, 1, 1, 0xc0, 0xc3] := by decide +kernel
example : Model.Msgpack.encode (.map [([97], .int (-(2 ^ 63))), ([98], .int (2 ^ 64 - 1))]) =
    [0x82, 0xa1, 0x61, 0xd3, 0x80, 0, 0, 0, 0, 0, 0, 0, 0xa1, 0x62, 0xcf, 255, 255, 255, 255, 255, 255, 255, 255] := by decide +kernel
example : Model.Msgpack.encodeDouble 0x3ff8000000000000 = [0xca, 0x3f, 0xc0, 0, 0] := by decide +kernel
example : Model.Msgpack.encodeDouble 0x3ff199999999999a = [0xcb, 0x3f, 0xf1, 0x99, 0x99, 0x99, 0x99, 0x99, 0x9a] := by decide +kernel
example : Spec.Msgpack.decode (Model.Msgpack.encode sample) = .ok (toValue sample) [] := by rfl

/-! UBJSON: a sample in the domain (integers below 2^63), the bytes of small examples, and the reference decoder on the sample's bytes -/
def sampleU : CV := .map [([97], .arr [.int 255, .int 256, .int (-1), .int (2 ^ 63 - 1), .int (-(2 ^ 63))]),
                           ([195, 169], .str [240, 159, 152, 128]), ([98], .bytes [0, 255]), ([99], .map []), ([100], .null)]
example : Model.Ubjson.OKu sampleU := by
  simp only [sampleU, Model.Ubjson.OKu, Model.Ubjson.OKuList, Model.Ubjson.OKuMembers]
  decide +kernel
example : Model.Ubjson.encode (.arr [.int 255, .int 256, .int (-128), .int (-129), .str [97], .bytes [1, 2], .null, .bool true]) =
    [91, 35, 85, 8, 85, 255, 73, 1, 0, 105, 128, 73, 255, 127, 83, 85, 1, 97, 91, 36, 85, 35, 85, 2, 1, 2, 90, 84] := by decide +kernel
example : Model.Ubjson.encode (.map [([97], .int 32768)]) = [123, 35, 85, 1, 85, 1, 97, 108, 0, 0, 128, 0] := by decide +kernel
example : Model.Ubjson.representable (.arr [.int (2 ^ 63)]) = false := by decide +kernel
/-- the entry point `decode` (fuel 3·length+3) has enough fuel for the sample: the theorem's hypotheses are dischargeable -/
example : Spec.Ubjson.decode (Model.Ubjson.encode sampleU) = .ok (toValueUbjson sampleU) [] := by
  have h := ubjson_roundtrip_any_fuel sampleU
    (by simp only [sampleU, Model.Ubjson.OKu, Model.Ubjson.OKuList, Model.Ubjson.OKuMembers]; decide +kernel) []
    (3 * (Model.Ubjson.encode sampleU).length + 3) (by decide +kernel)
  rw [ubjson_item_is_decode]
  simpa using h

/-! BSON: a sample in the domain, the bytes the real encoder writes for small documents, the reference decoder on
    the sample's bytes, a root array, the refusals, and what the model's `encode` writes for a name holding 0x00, which `OKb` excludes -/
def sampleB : CV := .map [([97], .arr [.int 2147483647, .int 2147483648, .int (-2147483648), .int (-2147483649), .int (2 ^ 63 - 1), .int (-(2 ^ 63))]),
                           ([195, 169], .str [240, 159, 152, 128, 0, 97]), ([98], .bytes [0, 255]), ([99], .map []), ([100], .null),
                           ([101], .arr [.arr [], .arr [.bool true, .dbl 0x7ff8000000000001]]), ([], .dbl 0x3ff8000000000000)]
theorem sampleB_ok : Model.Bson.OKb sampleB := by
  refine ⟨rfl, ?_, by decide +kernel, by decide +kernel⟩
  simp only [sampleB, Model.Bson.OKv, Model.Bson.OKvList, Model.Bson.OKvMembers, Model.Bson.NameOK]
  decide +kernel
/-- { "a": 1, "b": [1, "a", [], {}] } -/
example : Model.Bson.encode (.map [([97], .int 1), ([98], .arr [.int 1, .str [97], .arr [], .map []])]) =
    some [0x34, 0, 0, 0, 0x10, 0x61, 0, 1, 0, 0, 0, 0x04, 0x62, 0, 0x25, 0, 0, 0, 0x10, 0x30, 0, 1, 0, 0, 0, 0x02, 0x31, 0, 2, 0, 0, 0, 0x61, 0,
          0x04, 0x32, 0, 5, 0, 0, 0, 0, 0x03, 0x33, 0, 5, 0, 0, 0, 0, 0, 0] := by decide +kernel
/-- { "a": 2^31, "b": -2^31-1, "d": bytes 01 02 } -/
example : Model.Bson.encode (.map [([97], .int 2147483648), ([98], .int (-2147483649)), ([100], .bytes [1, 2])]) =
    some [0x25, 0, 0, 0, 0x12, 0x61, 0, 0, 0, 0, 0x80, 0, 0, 0, 0, 0x12, 0x62, 0, 0xff, 0xff, 0xff, 0x7f, 0xff, 0xff, 0xff, 0xff,
          0x05, 0x64, 0, 2, 0, 0, 0, 0x80, 1, 2, 0] := by decide +kernel
/-- a root array [1, 2] is written as { "0": 1, "1": 2 }; the empty document is five bytes -/
example : Model.Bson.encode (.arr [.int 1, .int 2]) = some [0x13, 0, 0, 0, 0x10, 0x30, 0, 1, 0, 0, 0, 0x10, 0x31, 0, 2, 0, 0, 0, 0] := by decide +kernel
example : Model.Bson.encode (.map []) = some [5, 0, 0, 0, 0] ∧ Model.Bson.encode (.arr []) = some [5, 0, 0, 0, 0] := by decide +kernel
example : toValueBson (.arr [.int 1, .int 2]) = .map [([48], .int 1 ""), ([49], .int 2 "")] := by rfl
example : Model.Bson.encode (.int 1) = none ∧ Model.Bson.representable (.map [([97], .int (2 ^ 63))]) = false ∧
    Model.Bson.representable (.map [([97], .str [255])]) = false := by decide +kernel
set_option maxRecDepth 16384 in
/-- the entry point `decode` on the sample's bytes: computed, and as an instance of the theorem -/
example : (Model.Bson.encode sampleB).map Spec.Bson.decode = some (.ok (toValueBson sampleB) []) := by rfl
example : ∃ bytes, Model.Bson.encode sampleB = some bytes ∧ Spec.Bson.decode bytes = .ok (toValueBson sampleB) [] := by
  simpa using bson_roundtrip_decode sampleB sampleB_ok []
/-- why `OKb` asks for names without 0x00: the bytes written for { "a\0b": null } are cut at the 0x00 by any reader of C strings - the
    reference decoder finds an element of type 0x62 ('b') next and calls the document ill-formed -/
example : (Model.Bson.encode (.map [([97, 0, 98], .null)])).map Spec.Bson.decode = some .illformed := by rfl

end JV.Props.C06
