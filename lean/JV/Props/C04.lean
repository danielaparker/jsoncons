/-
  C04 — numbers survive conversion between text and binary exactly.

  Model : JV.Model.Number (dec_to_integer, from_integer, the parser's integer classification),
          JV.Model.BigInt (basic_bigint's limb loops with 64-bit wrap-around: += / -= / compare / reduce,
          DDproduct, *= word, *= bigint (1×1, word×many, schoolbook columns), <<=, >>=, += word, the string
          constructor (detail::to_bigint), from_bytes_be, divide's num<denom / 1×1 / divisor < 2^32 exits,
          write_bytes_be, write_string's 19-digit chunk loop). Every one of these is run against the real member
          function word for word in the correspondence stream `bigint-limbs` (operands and results as sign + hex words).
  Proved: integer parse/print exactness incl. both 64-bit boundaries; exactness of bigint addition, subtraction,
          reduce, compare, also with signs (on reduced operands; results reduced); DDproduct = the 128-bit product (high word ≤ 2^64-2); *= word and *= bigint exact (all exits);
          <<= is ·2^k, >>= is ⌊|·|/2^k⌋; decimal text → bigint exact and total on digit strings, none otherwise;
          from_bytes_be / write_bytes_be are the big-endian base-256 value, and round-trip; divide by a one-word
          denominator exact on the modelled exits; write_string ∘ string constructor = identity on the integer
          (unconditional for values of one word; for longer values conditional on divide(10^19) being exact).
  NOT proved (validated per case against exact Python arithmetic in the correspondence run): Grisu3 / snprintf
          digit generation, strtod, the general (Knuth) exit of bigint divide (normalize / DDquotient /
          subtractmul / unnormalize) and hence multi-word write_string's divisions, hex text.
-/
import JV.Proofs.Number
import JV.Proofs.BigInt
import JV.Proofs.BigIntMul
import JV.Proofs.BigIntShift
import JV.Proofs.BigIntRadix
import JV.Proofs.BigIntPrint
import JV.Proofs.BigIntSigned
namespace JV.Props.C04
open JV Model

/-- every digit string of at most 20 characters parses to exactly its value iff that value fits in
    64 bits; otherwise `result_out_of_range` — never wrapped, truncated or rounded -/
theorem decToU64_exact (s : Bytes) (hne : s ≠ []) (hd : AllDigits s) (hlen : s.length ≤ 20) :
    decToU64 s = if decVal s ≤ 2 ^ 64 - 1 then .ok (decVal s) else .error .range :=
  decToU64_digits s hne hd hlen

/-- longer digit strings are out of range (a literal without leading zeros of 21+ digits exceeds 2^64) -/
theorem decToU64_too_long (s : Bytes) (hd : AllDigits s) (hlen : s.length > 20) : decToU64 s = .error .range :=
  decToU64_long s hd hlen

/-- whatever is accepted is a non-empty all-digit string (no sign, blank, or stray character) -/
theorem decToU64_accepts_only_digits (s : Bytes) (n : Nat) (h : decToU64 s = .ok n) :
    AllDigits s ∧ s ≠ [] ∧ s.length ≤ 20 :=
  decToU64_ok_allDigits s n h

/-- every stored unsigned 64-bit integer prints as decimal digits that parse back to it -/
theorem unsigned_print_parse (n : Nat) (hn : n < 2 ^ 64) : decToU64 (fromUnsigned n) = .ok n :=
  fromUnsigned_roundtrip n hn

/-- … the printed form is the exact decimal expansion, without leading zeros -/
theorem unsigned_print_exact (n : Nat) (hn : n < 2 ^ 64) :
    AllDigits (fromUnsigned n) ∧ fromUnsigned n ≠ [] ∧ decVal (fromUnsigned n) = n ∧ ((fromUnsigned n).head? = some 48 → n = 0) :=
  fromUnsigned_digits n hn

/-- every stored signed 64-bit integer (including -2^63, which cannot be negated) prints and parses back exactly -/
theorem signed_print_parse (v : Int) (hlo : -(2 ^ 63 : Int) ≤ v) (hhi : v < 2 ^ 63) : decToI64 (fromInteger v) = .ok v :=
  fromInteger_roundtrip v hlo hhi

/-- a non-negative integer literal in the 64-bit range is stored as exactly that integer; outside it,
    with lossless_bignum, it is kept digit for digit -/
theorem parser_integer_exact (s : Bytes) (hne : s ≠ []) (hd : AllDigits s) (hlen : s.length ≤ 20) :
    classifyInteger true s = if decVal s ≤ 2 ^ 64 - 1 then .u64 (decVal s) else .bigint s := by
  have hhead : ¬ (s.head? = some 45) := by
    intro h
    cases s with
    | nil => exact hne rfl
    | cons c cs =>
      simp at h; subst h
      have := isDigit_iff.1 (hd 45 (by simp)); omega
  unfold classifyInteger
  simp only [hhead, if_false, decToU64_digits s hne hd hlen]
  by_cases hle : decVal s ≤ 2 ^ 64 - 1
  · simp [hle]
  · simp [hle]

/-- the bigint addition loop computes the sum of the magnitudes exactly (all carries, any lengths) -/
theorem bigint_add_exact (x y : List Nat) (hx : BigInt.Words x) (hy : BigInt.Words y) :
    BigInt.val (BigInt.addMag x y) = BigInt.val x + BigInt.val y :=
  (BigInt.addMag_val x y hx hy).1

/-- the bigint subtraction loop computes the difference exactly whenever |this| ≥ |y| (all borrows,
    including a borrow into a zero word) -/
theorem bigint_sub_exact (x y : List Nat) (hx : BigInt.Words x) (hy : BigInt.Words y)
    (hl : y.length ≤ x.length) (hge : BigInt.val y ≤ BigInt.val x) :
    BigInt.val (BigInt.subLoop x y 0) = BigInt.val x - BigInt.val y :=
  (BigInt.subLoop_val x y hx hy hl hge).1

/-- `reduce()` does not change the value -/
theorem bigint_reduce_exact (xs : List Nat) : BigInt.val (BigInt.stripHigh xs) = BigInt.val xs :=
  BigInt.stripHigh_val xs

open BigInt in
/-- `compare` (by length, then from the top word down; signs first) orders reduced values as integers -/
theorem bigint_compare_exact (a b : BigInt.Big) (ha : BigInt.Normal a.mag) (hb : BigInt.Normal b.mag) :
    (BigInt.compare a b > 0 ↔ BigInt.toInt a > BigInt.toInt b) ∧ (BigInt.compare a b < 0 ↔ BigInt.toInt a < BigInt.toInt b) := by
  unfold BigInt.compare
  by_cases he : a.mag = [] ∧ b.mag = []
  · rw [if_pos he]
    unfold toInt; rw [he.1, he.2]
    cases a.neg <;> cases b.neg <;> simp [val]
  · rw [if_neg he]
    obtain ⟨c1, c2, _, _⟩ := cmpMag_spec a.mag b.mag ha hb
    have hpos : 0 < val a.mag ∨ 0 < val b.mag := by
      by_cases h : a.mag = []
      · exact Or.inr (normal_pos hb (fun h2 => he ⟨h, h2⟩))
      · exact Or.inl (normal_pos ha h)
    unfold toInt
    cases hna : a.neg <;> cases hnb : b.neg <;> simp <;> omega

open BigInt in
/-- `operator+=` with signs (equal signs: add magnitudes; else subtract the smaller magnitude from the larger,
    swapping through `-(y - *this)`) is integer addition, and the result is reduced -/
theorem bigint_add_signed (a b : BigInt.Big) (ha : BigInt.Normal a.mag) (hb : BigInt.Normal b.mag) :
    BigInt.toInt (BigInt.add 4 a b) = BigInt.toInt a + BigInt.toInt b ∧ BigInt.Normal (BigInt.add 4 a b).mag := by
  by_cases hs : a.neg = b.neg
  · exact add_same 3 a b ha hb hs
  · rw [add_succ, if_pos hs]
    have hs' : a.neg = (negate b).neg := by
      rw [negate_neg]; revert hs; cases a.neg <;> cases b.neg <;> simp
    obtain ⟨r1, r2⟩ := sub_same 1 a (negate b) ha (by rw [negate_mag]; exact hb) hs'
    exact ⟨by rw [r1, toInt_negate]; omega, r2⟩

open BigInt in
/-- `operator-=` with signs is integer subtraction, and the result is reduced -/
theorem bigint_sub_signed (a b : BigInt.Big) (ha : BigInt.Normal a.mag) (hb : BigInt.Normal b.mag) :
    BigInt.toInt (BigInt.sub 4 a b) = BigInt.toInt a - BigInt.toInt b ∧ BigInt.Normal (BigInt.sub 4 a b).mag := by
  by_cases hs : a.neg = b.neg
  · exact sub_same 2 a b ha hb hs
  · rw [sub_succ, if_pos hs]
    have hs' : a.neg = (negate b).neg := by
      rw [negate_neg]; revert hs; cases a.neg <;> cases b.neg <;> simp
    obtain ⟨r1, r2⟩ := add_same 2 a (negate b) ha (by rw [negate_mag]; exact hb) hs'
    exact ⟨by rw [r1, toInt_negate]; omega, r2⟩

/-- `DDproduct` (32-bit half-word products with two carry tests) is the exact 128-bit product, and its
    high word never exceeds 2^64 - 2 — the fact the multiplication loops silently rely on -/
theorem bigint_ddproduct_exact (a b : Nat) (ha : a < BigInt.B) (hb : b < BigInt.B) :
    (BigInt.ddproduct a b).2 + BigInt.B * (BigInt.ddproduct a b).1 = a * b ∧
      (BigInt.ddproduct a b).2 < BigInt.B ∧ (BigInt.ddproduct a b).1 + 2 ≤ BigInt.B :=
  BigInt.ddproduct_spec a b ha hb

/-- `operator*=(word)`: the carry loop over DDproduct multiplies exactly -/
theorem bigint_mulWord_exact (x : List Nat) (w : Nat) (hx : BigInt.Words x) (hw : w < BigInt.B) :
    BigInt.val (BigInt.mulWord x w) = BigInt.val x * w :=
  BigInt.mulWord_val x w hx hw

/-- `operator*=(basic_bigint)`: every exit (1×1 with overflow test, word × many, schoolbook columns with the
    three-word accumulator) gives the exact product. `x.length < 2^64`: the column carry is a 64-bit counter. -/
theorem bigint_mul_exact (x y : List Nat) (hx : BigInt.Words x) (hy : BigInt.Words y) (hlen : x.length < BigInt.B) :
    BigInt.val (BigInt.mulMag x y) = BigInt.val x * BigInt.val y :=
  BigInt.mulMag_val x y hx hy hlen

open BigInt in
/-- … with signs: the product of the integers -/
theorem bigint_mul_signed (a b : BigInt.Big) (ha : BigInt.Words a.mag) (hb : BigInt.Words b.mag) (hlen : a.mag.length < BigInt.B) :
    BigInt.toInt (BigInt.mul a b) = BigInt.toInt a * BigInt.toInt b := by
  unfold mul
  by_cases hz : a.mag = [] ∨ b.mag = []
  · simp only [hz, if_true]
    rw [toInt_zero_mag]
    rcases hz with h | h
    · simp [toInt, h, val]
    · simp [toInt, h, val]
  · simp only [hz, if_false]
    unfold toInt
    simp only [mulMag_val a.mag b.mag ha hb hlen]
    cases a.neg <;> cases b.neg <;> simp [Int.natCast_mul, Int.mul_neg, Int.neg_mul]

/-- `operator<<=`: whole-word move, then per-word `(w << k) | (prev >> (64-k))`, is multiplication by 2^k -/
theorem bigint_shl_exact (x : List Nat) (k : Nat) (hx : BigInt.Words x) :
    BigInt.val (BigInt.shlRaw x k) = BigInt.val x * 2 ^ k :=
  BigInt.shlRaw_val x k hx

open BigInt in
theorem bigint_shl_signed (a : BigInt.Big) (k : Nat) (ha : BigInt.Words a.mag) :
    BigInt.toInt (BigInt.shl a k) = BigInt.toInt a * 2 ^ k := by
  unfold shl
  rw [toInt_reduce]
  unfold toInt
  simp only [shlRaw_val _ _ ha]
  cases a.neg <;> simp [Int.natCast_mul, Int.neg_mul]

open BigInt in
/-- `operator>>=` is floor division of the magnitude by 2^k (a negative value is truncated towards zero, not
    floored), whichever exit is taken; it never turns the sign flag on -/
theorem bigint_shr_exact (a : BigInt.Big) (k : Nat) (ha : BigInt.Words a.mag) :
    BigInt.val (BigInt.shr a k).mag = BigInt.val a.mag / 2 ^ k ∧ ((BigInt.shr a k).neg = true → a.neg = true) := by
  unfold shr
  simp only []
  by_cases hq : k / 64 ≥ a.mag.length
  · rw [if_pos hq]
    refine ⟨?_, fun h => h⟩
    have h1 := val_lt ha
    have h2 : B ^ a.mag.length ≤ B ^ (k / 64) := Nat.pow_le_pow_right B_pos hq
    have h3 : B ^ (k / 64) ≤ 2 ^ k := by
      rw [pow_split k]; exact Nat.le_mul_of_pos_right _ (Nat.two_pow_pos _)
    rw [Nat.div_eq_of_lt (by omega)]; rfl
  · rw [if_neg hq]
    have hd := val_drop (k / 64) a.mag ha
    have hwd := words_drop (k / 64) ha
    have key : ∀ m, val m = val a.mag / 2 ^ k → val (reduce a.neg m).mag = val a.mag / 2 ^ k ∧ ((reduce a.neg m).neg = true → a.neg = true) := by
      intro m hm
      refine ⟨by simp [reduce, stripHigh_val, hm], ?_⟩
      simp only [reduce]
      by_cases hz : stripHigh m = []
      · simp [hz]
      · simp [hz]
    by_cases hr : k % 64 = 0
    · rw [if_pos hr]
      apply key
      rw [hd, pow_split k, hr]; simp
    · rw [if_neg hr]
      apply key
      rw [shrBits_val (k % 64) (Nat.mod_lt _ (by omega)) _ hwd, hd, Nat.div_div_eq_div_mul, ← pow_split k]

/-- the string constructor (`detail::to_bigint`: `v *= 10u; v += digit` per character): every non-empty digit
    string becomes exactly its decimal value; the sign flag is set only on request -/
theorem bigint_parse_exact (neg : Bool) (s : Bytes) (hne : s ≠ []) (hd : AllDigits s) :
    ∃ b, BigInt.ofDecimalDigits neg s = some b ∧ BigInt.val b.mag = decVal s ∧ BigInt.Words b.mag ∧ (b.neg = true → neg = true) ∧
      (b.neg = neg ∨ decVal s = 0) :=
  BigInt.ofDecimalDigits_ok neg s hne hd

open BigInt in
/-- … and anything else is rejected (no partial parse, no skipped character) -/
theorem bigint_parse_rejects (neg : Bool) (s : Bytes) (h : ¬ AllDigits s) : BigInt.ofDecimalDigits neg s = none := by
  unfold ofDecimalDigits
  by_cases hne : s = []
  · rw [if_pos hne]
  · rw [if_neg hne]
    by_cases hz : s.all (· = 48) = true
    · exact absurd (decVal_zeros s hz).2 h
    · rw [if_neg hz, ofDecimalLoop_bad s _ h]

/-- `from_bytes_be` (`v *= 256; v += byte`): the magnitude is the big-endian value of the bytes -/
theorem bigint_from_bytes_exact (sg : Int) (s : List Nat) (h : ∀ b ∈ s, b < 256) :
    BigInt.val (BigInt.fromBytesBE sg s).mag = BigInt.beVal s ∧ BigInt.Words (BigInt.fromBytesBE sg s).mag ∧
      (BigInt.fromBytesBE sg s).neg = decide (sg < 0) :=
  BigInt.fromBytesBE_val sg s h

/-- `divide` by a one-word denominator on its `num < denom`, 1×1 and divisor < 2^32 exits (the Knuth exit is
    not modelled: `divWord = none` there): `num = quot * d + rem`, and `rem < d` on the dividing exits -/
theorem bigint_divWord_exact (x : List Nat) (d : Nat) (hx : BigInt.Words x) (hd : 0 < d) (q r : List Nat)
    (h : BigInt.divWord x d = some (q, r)) :
    BigInt.val x = BigInt.val q * d + BigInt.val r ∧ BigInt.Words q ∧
      (¬ BigInt.cmpMag x [d] < 0 → BigInt.val r < d ∧ r.headD 0 = BigInt.val r) :=
  BigInt.divWord_spec x d hx hd q r h

/-- `write_bytes_be` (repeated `divide` by 256): the bytes are the big-endian base-256 digits of the magnitude -/
theorem bigint_to_bytes_exact (a : BigInt.Big) (ha : BigInt.Words a.mag) :
    BigInt.beVal (BigInt.toBytesBE a).2 = BigInt.val a.mag ∧ ∀ b ∈ (BigInt.toBytesBE a).2, b < 256 :=
  BigInt.toBytesBE_val a ha

open BigInt in
/-- bytes written by `write_bytes_be` and read back by `from_bytes_be` give the same integer -/
theorem bigint_bytes_roundtrip (a : BigInt.Big) (ha : BigInt.Words a.mag) :
    BigInt.toInt (BigInt.fromBytesBE (BigInt.toBytesBE a).1 (BigInt.toBytesBE a).2) = BigInt.toInt a := by
  obtain ⟨t1, t2⟩ := toBytesBE_val a ha
  obtain ⟨f1, _, f3⟩ := fromBytesBE_val (toBytesBE a).1 (toBytesBE a).2 t2
  unfold toInt
  rw [f1, f3, t1]
  unfold toBytesBE
  simp only []
  by_cases hz : a.mag = []
  · simp [hz, val]
  · cases hn : a.neg <;> simp [hz]

/-- `write_string` (19-digit chunks, zero-padded except the last, sign, reverse) followed by the string
    constructor gives the same integer back — for every bigint, PROVIDED the `divide(10^19)` it calls is exact
    on the values it meets (`Div19Exact P div19`, `P` any property of word lists kept by the quotient). The
    general (Knuth) `divide` exit is not modelled: for it this premise is an observation of the correspondence run. -/
theorem bigint_print_parse (P : List Nat → Prop) (div19 : List Nat → List Nat × Nat) (hdiv : BigInt.Div19Exact P div19)
    (a : BigInt.Big) (hP : P a.mag) (ha : BigInt.Words a.mag) :
    ∃ b, BigInt.ofDecimal (BigInt.toDecimal div19 a) = some b ∧ BigInt.toInt b = BigInt.toInt a :=
  BigInt.print_parse P div19 hdiv a hP ha

open BigInt in
/-- … and unconditionally for every value of at most one word, where `divide(10^19)` leaves through its
    modelled `num < denom` / 1×1 exits -/
theorem bigint_print_parse_word (a : BigInt.Big) (hl : a.mag.length ≤ 1) (ha : BigInt.Words a.mag) :
    ∃ b, BigInt.ofDecimal (BigInt.toDecimal BigInt.div19Word a) = some b ∧ BigInt.toInt b = BigInt.toInt a :=
  print_parse _ div19Word div19Word_exact a hl ha

/-! ### non-vacuity -/
example : decToU64 [49, 56, 52, 52, 54, 55, 52, 52, 48, 55, 51, 55, 48, 57, 53, 53, 49, 54, 49, 53] = .ok (2 ^ 64 - 1) := by rfl
example : decToU64 [49, 56, 52, 52, 54, 55, 52, 52, 48, 55, 51, 55, 48, 57, 53, 53, 49, 54, 49, 54] = .error .range := by rfl
example : decToI64 (fromInteger (-(2 ^ 63))) = .ok (-(2 ^ 63)) := by rfl
example : BigInt.subLoop [0, 0, 1] [1, 1] 0 = [BigInt.B - 1, BigInt.B - 2, 0] := by decide

example : BigInt.ddproduct (BigInt.B - 1) (BigInt.B - 1) = (BigInt.B - 2, 1) := by decide
example : BigInt.mulWord [BigInt.B - 1, BigInt.B - 1] (BigInt.B - 1) = [1, BigInt.B - 1, BigInt.B - 2] := by decide
example : BigInt.mulMag [BigInt.B - 1, BigInt.B - 1] [BigInt.B - 1, BigInt.B - 1] = [1, 0, BigInt.B - 2, BigInt.B - 1] := by decide
example : BigInt.shlRaw [BigInt.B - 1, 1] 65 = [0, BigInt.B - 2, 3, 0] := by decide
example : BigInt.shr { neg := true, mag := [BigInt.B - 1, 1] } 1 = { neg := true, mag := [BigInt.B - 1] } := by decide
-- every word shifted out: size 0 but the sign flag survives (no `reduce()` on that exit)
example : BigInt.shr { neg := true, mag := [5] } 64 = { neg := true, mag := [] } := by decide
-- "18446744073709551616" = 2^64
example : BigInt.ofDecimal [49, 56, 52, 52, 54, 55, 52, 52, 48, 55, 51, 55, 48, 57, 53, 53, 49, 54, 49, 54] = some { neg := false, mag := [0, 1] } := by decide
example : BigInt.ofDecimal [45, 48, 48] = some { neg := false, mag := [] } := by decide
example : BigInt.ofDecimal [45] = none := by decide
example : BigInt.toBytesBE { neg := true, mag := [0, 1] } = (-1, [1, 0, 0, 0, 0, 0, 0, 0, 0]) := by decide
example : BigInt.fromBytesBE (-1) [1, 0, 0, 0, 0, 0, 0, 0, 0] = { neg := true, mag := [0, 1] } := by decide
example : BigInt.divWord [6, 7] 3 = some ([6148914691236517207, 2], [1]) := by decide
-- -(2^64 - 1) prints as "-18446744073709551615": two chunks, the first padded to 19 digits
example : BigInt.toDecimal BigInt.div19Word { neg := true, mag := [BigInt.B - 1] } =
    [45, 49, 56, 52, 52, 54, 55, 52, 52, 48, 55, 51, 55, 48, 57, 53, 53, 49, 54, 49, 53] := by decide
example : BigInt.add 4 { neg := true, mag := [0, 1] } { neg := false, mag := [1] } = { neg := true, mag := [BigInt.B - 1] } := by decide
example : BigInt.sub 4 { neg := false, mag := [1] } { neg := false, mag := [0, 1] } = { neg := true, mag := [BigInt.B - 1] } := by decide

end JV.Props.C04
