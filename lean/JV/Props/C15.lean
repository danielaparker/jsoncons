/-
  C15 — JSON Patch is RFC 6902-conformant and atomic.

  Model : JV.Model.Patch (jsonpatch.hpp apply_patch incl. definite_path, the insert-else-replace
          fallback, the undo log and the unwinder that stops at the first failing undo; from_diff).
  Spec  : JV.Spec.Rfc6902 (executed by the driver as the oracle of the correspondence run).

  Proved here
  * ATOMICITY of the model (the per-operation inversion lemmas for the undo log are in
    JV.Proofs.PatchUndo and PatchOrdered; `undo_inverts_op` is the single-operation statement):
      apply_atomic_sorted     : d.WF → p.WF → (applyPatch false d p).1 ≠ none → (applyPatch false d p).2 = d
          `jsoncons::json`: EXACT, every patch (all six operations, `-`, array shifting, the
          insert-else-replace fallback, root targets, `move` failing in its second half).  `WF` = the
          representation invariant of the type (objects sorted by key ⇒ unique keys); for the patch only
          its `value` members need it (`apply_atomic_sorted_values`).  The invariant is needed (witness).
      apply_atomic_ordered    : UK d → UK p → (applyPatch true d p).1 ≠ none → JsonEq (applyPatch true d p).2 d
          `jsoncons::ojson`: UP TO MEMBER ORDER (`JsonEq a b := norm a = norm b`, `norm` sorts the members
          of every object; `norm_of_wf`: it is the identity on `WF` values), under unique keys (`UK`).
          Exact equality is FALSE there (witness: `{"a":1,"b":2}`, `[remove /a, test "" 8]` leaves
          `{"b":2,"a":1}` — the undo of remove/move re-appends the member last), and
          unique keys are needed (witness).  `apply_atomic_ordered_values` also gives `UK` of the result.
      apply_atomic            : both flavours in one statement, with `JsonEq`.
      apply_atomic_no_removal : patchNoRemoval p → (applyPatch o d p).1 ≠ none → (applyPatch o d p).2 = d
          EXACT for BOTH flavours with NO invariant at all when the patch has no `remove` / `move`.
  * the failure half that does not depend on the undo log, rejection of malformed operations,
    purity of `test`, root targets (D11).

  * RFC 6902 CONFORMANCE of the model, `jsoncons::json` (sorted objects), BOTH directions (helper lemmas
    in JV.Proofs.PatchSpec; they rest on the C14 pointer lemmas and on `parse s = ok ts ↔ tokens s = some ts`):
      apply_refines_spec  : d.WF → p.WF → (applyPatch false d p).1 = none →
                              Rfc6902.applyPatch d p = some (applyPatch false d p).2
          (`apply_refines_spec_values`: only the patch's `value` members need the invariant;
           `apply_op_refines_spec`: the per-operation statement, all six operations, incl. `definite_path`'s
           resolution of a trailing `-` and the insert-else-replace fallback = RFC "add to an existing
           member replaces it")
      spec_success_implies_model_success : d.WF → PatchValuesWF p → PatchSmallRun d p →
                              Rfc6902.applyPatch d p = some r → applyPatch false d p = (none, r)
      apply_iff_spec      : applyPatch false d p = (none, r) ↔ Rfc6902.applyPatch d p = some r
          `PatchSmallRun`: every document of the reference run has arrays shorter than 2^64 (index tokens
          are read as `size_t`).  No deviation from RFC 6902 found for the sorted flavour; error KINDS are
          not compared.  The insertion-ordered flavour is not covered (D18: `test` on `ojson` is
          member-order sensitive).
  * DIFF LAW, `jsoncons::json` (JV.Proofs.PatchDiff; `fromDiff_run`: the patch produced for a sub-document
    at `loc` rewrites exactly that sub-document of any host document):
      diff_law            : a.WF → b.WF → SmallArrays a → SmallArrays b →
                              applyPatch false a (.arr (fromDiff false [] a b)) = (none, b)
          for all documents whose arrays are shorter than 2^64; both `WF` hypotheses are necessary (witnesses).

  Remaining gap of this property (checked on every run by the correspondence run against the Lean
  Spec and by the property oracle on the real code; see DESIGN.md):
      the insertion-ordered flavour (`ojson`, `ordered = true`) of `apply_refines_spec` and `diff_law`
      (there only up to member order, `JsonEq`; `test` is member-order sensitive, D18);
      `diff_law_spec` assumes `PatchValuesWF` of the produced patch (its values are sub-values of `b`).
  Atomicity is a theorem about the MODEL's undo log; allocation failure inside the unwinder (D66) is
  outside the model.
-/
import JV.Proofs.PatchOrdered
import JV.Proofs.PatchSpec
import JV.Proofs.PatchDiff
namespace JV.Props.C15
open JV Model Model.Patch Model.Pointer
open JV.Model.JsonPath (UK UKList UKMembers)

/-- every operation that reports an error without having logged an undo entry has left the document untouched
    (for both object flavours; the only failing operation that logs an entry is `move` after its removal) -/
theorem failing_op_leaves_doc (ordered : Bool) (t operation : JVal)
    (h1 : (applyOp ordered t operation).1 ≠ none) (h2 : (applyOp ordered t operation).2.2 = []) :
    (applyOp ordered t operation).2.1 = t := by
  -- with an empty log `applyOp_undoes` needs no hypothesis on removals
  obtain ⟨t2, rfl, hu⟩ := applyOp_undoes Eq (fun _ => rfl) ordered t operation (fun h => absurd h2 h)
  rw [h2] at hu
  exact hu []

/-- atomicity when the first operation is the one that fails -/
theorem atomic_at_first_failure (ordered : Bool) (d operation : JVal) (ops : List JVal)
    (h1 : (applyOp ordered d operation).1 ≠ none) (h2 : (applyOp ordered d operation).2.2 = []) :
    (applyPatch ordered d (.arr (operation :: ops))).2 = d := by
  have hd := failing_op_leaves_doc ordered d operation h1 h2
  simp only [applyPatch, applyLoop]
  cases he : (applyOp ordered d operation).1 with
  | none => exact absurd he h1
  | some e => simp [h2, unwind, hd]

/-- a patch that is not an array is rejected and nothing is touched -/
theorem non_array_patch_rejected (ordered : Bool) (d p : JVal) (h : p.isArray = false) :
    applyPatch ordered d p = (some .invalidPatch, d) := by
  cases p <;> simp_all [applyPatch, JVal.isArray]

/-- an operation object without a string "op" or without a string "path" is `invalid_patch` -/
theorem malformed_operation_rejected (ordered : Bool) (d : JVal) (om : List (Bytes × JVal))
    (h : (Assoc.find sOp om).bind strOf = none ∨ (Assoc.find sPath om).bind strOf = none) :
    applyOp ordered d (.obj om) = (some .invalidPatch, d, []) := by
  unfold applyOp
  rcases h with h | h
  · simp [h]
  · cases h1 : (Assoc.find sOp om).bind strOf with
    | none => simp [h1]
    | some op => simp [h, h1]

/-- an "op" that is none of the six RFC 6902 operations is rejected (D10) -/
theorem unknown_op_rejected (ordered : Bool) (d : JVal) (om : List (Bytes × JVal)) (op path : Bytes) (loc : List Bytes)
    (h1 : (Assoc.find sOp om).bind strOf = some op) (h2 : (Assoc.find sPath om).bind strOf = some path)
    (h3 : parse path = .ok loc)
    (hu : op ≠ sTest ∧ op ≠ sAdd ∧ op ≠ sRemove ∧ op ≠ sReplace ∧ op ≠ sMove ∧ op ≠ sCopy) :
    applyOp ordered d (.obj om) = (some .invalidPatch, d, []) := by
  unfold applyOp
  simp [h1, h2, h3, hu.1, hu.2.1, hu.2.2.1, hu.2.2.2.1, hu.2.2.2.2.1, hu.2.2.2.2.2]

/-- `test` never modifies the document and logs nothing -/
theorem test_is_pure (d : JVal) (loc : List Bytes) (om : List (Bytes × JVal)) :
    (opTest d loc om).2 = (d, []) :=
  opTest_snd d loc om

/-- a root target goes through the replace path, whose undo entry restores the original document (D11) -/
theorem root_add_logs_replace (ordered : Bool) (d v : JVal) :
    addLike ordered d [] v = (true, v, [.replace [] d]) := by
  simp [addLike, Pointer.get, Pointer.apply]

/-- the `value` members of the patch's operation objects satisfy the representation invariant -/
def PatchValuesWF : JVal → Prop
  | .arr ops => ∀ op ∈ ops, OpValWF op
  | _ => True

theorem wf_of_mem {x : JVal} : ∀ {xs : List JVal}, WFList xs → x ∈ xs → x.WF :=
  fun hw h => wfList_iff.1 hw x h

theorem patchValuesWF_of_wf {p : JVal} (hp : p.WF) : PatchValuesWF p := by
  cases p with
  | arr ops =>
    intro op hm
    exact opValWF_of_wf (wf_of_mem (xs := ops) hp hm)
  | _ => trivial

/-- ATOMICITY for `jsoncons::json` (sorted objects), EXACT: whenever `apply_patch` reports an error,
    the document is identical to the one it was given — under the representation invariant of the type
    for the document and for the values carried by the patch. -/
theorem apply_atomic_sorted_values (d p : JVal) (hd : d.WF) (hp : PatchValuesWF p) :
    (applyPatch false d p).1 ≠ none → (applyPatch false d p).2 = d := by
  intro h
  cases p with
  | arr ops => exact applyLoop_atomic_sorted d ops d [] hp hd rfl h
  | _ => rfl

theorem apply_atomic_sorted (d p : JVal) (hd : d.WF) (hp : p.WF) :
    (applyPatch false d p).1 ≠ none → (applyPatch false d p).2 = d :=
  apply_atomic_sorted_values d p hd (patchValuesWF_of_wf hp)

/-- PER OPERATION: an operation object that `apply_patch` performs successfully on a `jsoncons::json`
    document is a well-formed RFC 6902 operation (`Rfc6902.decode` accepts it, with the same reference
    tokens) and the document afterwards is exactly the one `Rfc6902.applyOp` prescribes. -/
theorem apply_op_refines_spec (t operation : JVal) (ht : t.WF) (h : (applyOp false t operation).1 = none) :
    (Spec.Rfc6902.decode operation).bind (Spec.Rfc6902.applyOp t) = some (applyOp false t operation).2.1 :=
  applyOp_refines t operation ht h

/-- RFC 6902 CONFORMANCE for `jsoncons::json` (sorted objects): whenever `apply_patch` reports no error,
    the document it leaves is exactly the one the RFC 6902 reference computes — for every patch, under the
    representation invariant of the type for the document and for the values carried by the patch. -/
theorem apply_refines_spec_values (d p : JVal) (hd : d.WF) (hp : PatchValuesWF p)
    (h : (applyPatch false d p).1 = none) :
    Spec.Rfc6902.applyPatch d p = some (applyPatch false d p).2 := by
  cases p with
  | arr ops => exact applyLoop_refines ops d [] hd hp h
  | _ => simp [applyPatch] at h

theorem apply_refines_spec (d p : JVal) (hd : d.WF) (hp : p.WF) (h : (applyPatch false d p).1 = none) :
    Spec.Rfc6902.applyPatch d p = some (applyPatch false d p).2 :=
  apply_refines_spec_values d p hd (patchValuesWF_of_wf hp) h

/-- `apply_patch`'s pointer parser accepts exactly the RFC 6901 JSON Pointers, with the same reference tokens -/
theorem patch_path_iff_rfc6901 (s : Bytes) (ts : List Bytes) : parse s = .ok ts ↔ Spec.Rfc6901.tokens s = some ts :=
  ⟨parse_sound, parse_complete⟩

/-- every document the reference run passes through (incl. the one between the two halves of a `move`)
    has arrays shorter than 2^64 — always true of C++ containers; array-index tokens are read as `size_t` -/
def PatchSmallRun (d : JVal) : JVal → Prop
  | .arr ops => SmallRun d ops
  | _ => True

/-- PER OPERATION, CONVERSE: every operation object the RFC 6902 reference decodes and performs,
    `apply_patch` performs without error -/
theorem spec_op_success_implies_model_success (t operation r : JVal) (ht : t.WF) (hs : SmallArrays t)
    (hmid : MoveMidSmall t)
    (h : (Spec.Rfc6902.decode operation).bind (Spec.Rfc6902.applyOp t) = some r) :
    applyOp false t operation = (none, r, (applyOp false t operation).2.2) := by
  have hok := applyOp_complete t operation r ht hs hmid h
  have href := applyOp_refines t operation ht hok
  unfold specStep at href
  rw [h] at href
  simp only [Option.some.injEq] at href
  rw [href, ← hok]

/-- CONVERSE of `apply_refines_spec`: whenever the RFC 6902 reference applies the patch, `apply_patch`
    (on `jsoncons::json`) reports no error and leaves the same document. -/
theorem spec_success_implies_model_success (d p r : JVal) (hd : d.WF) (hp : PatchValuesWF p)
    (hs : PatchSmallRun d p) (h : Spec.Rfc6902.applyPatch d p = some r) : applyPatch false d p = (none, r) := by
  cases p with
  | arr ops =>
    have hok := applyLoop_complete ops d [] r hd hp hs h
    have href := applyLoop_refines ops d [] hd hp hok
    simp only [Spec.Rfc6902.applyPatch] at h
    rw [h] at href
    simp only [Option.some.injEq] at href
    simp only [applyPatch]
    rw [href, ← hok]
  | _ => simp [Spec.Rfc6902.applyPatch] at h

/-- RFC 6902 CONFORMANCE, both directions: on `jsoncons::json` documents `apply_patch` succeeds exactly
    when the reference does, with the same result (error kinds are not compared) -/
theorem apply_iff_spec (d p r : JVal) (hd : d.WF) (hp : PatchValuesWF p) (hs : PatchSmallRun d p) :
    applyPatch false d p = (none, r) ↔ Spec.Rfc6902.applyPatch d p = some r := by
  constructor
  · intro h
    have h1 : (applyPatch false d p).1 = none := by rw [h]
    have := apply_refines_spec_values d p hd hp h1
    rw [h] at this; exact this
  · exact spec_success_implies_model_success d p r hd hp hs

/-- DIFF LAW for `jsoncons::json` (sorted objects): `apply_patch(a, from_diff(a, b))` reports no error and
    leaves exactly `b`, under the representation invariant of the type (needed for both, witnesses below)
    and arrays shorter than 2^64. -/
theorem diff_law (a b : JVal) (ha : a.WF) (hb : b.WF) (hsa : SmallArrays a) (hsb : SmallArrays b) :
    applyPatch false a (.arr (fromDiff false [] a b)) = (none, b) := by
  have h := fromDiff_run a b ha hb hsa hsb [] a (get_nil a)
  rw [put_nil] at h
  exact runOps_applyLoop _ a b [] h

/-- … hence the patch `from_diff` produces is also one the RFC 6902 reference turns `a` into `b` with -/
theorem diff_law_spec (a b : JVal) (ha : a.WF) (hb : b.WF) (hsa : SmallArrays a) (hsb : SmallArrays b)
    (hp : PatchValuesWF (.arr (fromDiff false [] a b))) :
    Spec.Rfc6902.applyPatch a (.arr (fromDiff false [] a b)) = some b := by
  have h := diff_law a b ha hb hsa hsb
  have := apply_refines_spec_values a _ ha hp (by rw [h])
  rw [h] at this; exact this

/-- no operation of the patch is `remove` or `move` (decidable) -/
def patchNoRemoval : JVal → Bool
  | .arr ops => ops.all noRemoval
  | _ => true

/-- ATOMICITY, EXACT, for BOTH object flavours and WITHOUT any invariant on the document or the
    patch (duplicate keys, unsorted objects allowed), for patches without `remove` / `move`. -/
theorem apply_atomic_no_removal (ordered : Bool) (d p : JVal) (hp : patchNoRemoval p = true) :
    (applyPatch ordered d p).1 ≠ none → (applyPatch ordered d p).2 = d := by
  intro h
  cases p with
  | arr ops =>
    have hops : ∀ op ∈ ops, noRemoval op = true := by simpa [patchNoRemoval, List.all_eq_true] using hp
    exact applyLoop_atomic_noRemoval ordered d ops d [] hops rfl h
  | _ => rfl

/-! #### insertion-ordered objects (`jsoncons::ojson`): atomic up to member order -/

/-- equal as JSON values: `norm` sorts the members of every object (arrays keep their order) -/
def JsonEq (a b : JVal) : Prop := norm a = norm b

theorem insertSorted_of_allGt {k : Bytes} {v : JVal} : ∀ {ms : List (Bytes × JVal)}, Assoc.AllGt k ms →
    Assoc.insertSorted k v ms = (k, v) :: ms :=
  JV.insertSorted_of_allGt

theorem sortMembers_of_sorted : ∀ ms : List (Bytes × JVal), Assoc.Sorted ms → sortMembers ms = ms
  | [], _ => rfl
  | (k, v) :: ms, h => by
    simp only [sortMembers]
    rw [sortMembers_of_sorted ms h.tail, insertSorted_of_allGt h.allGt]

mutual
  /-- `norm` is the identity on values that satisfy the sorted representation invariant, so on
      `jsoncons::json` values `JsonEq` is plain equality -/
  theorem norm_of_wf : ∀ t : JVal, t.WF → norm t = t
    | .arr xs, h => congrArg JVal.arr (normList_of_wf xs h)
    | .obj ms, h => by
      have hw : Assoc.Sorted ms ∧ WFMembers ms := h
      simp only [norm]
      rw [normMembers_of_wf ms hw.2, sortMembers_of_sorted ms hw.1]
    | .null, _ | .bool _, _ | .int _, _ | .str _, _ => rfl
  theorem normList_of_wf : ∀ xs : List JVal, WFList xs → normList xs = xs
    | [], _ => rfl
    | x :: xs, h => by simp only [normList]; rw [norm_of_wf x h.1, normList_of_wf xs h.2]
  theorem normMembers_of_wf : ∀ ms : List (Bytes × JVal), WFMembers ms → normMembers ms = ms
    | [], _ => rfl
    | (k, x) :: ms, h => by simp only [normMembers]; rw [norm_of_wf x h.1, normMembers_of_wf ms h.2]
end

theorem jsonEq_iff_eq_of_wf (a b : JVal) (ha : a.WF) (hb : b.WF) : JsonEq a b ↔ a = b := by
  unfold JsonEq; rw [norm_of_wf a ha, norm_of_wf b hb]

/-- the `value` members of the patch's operation objects have unique keys -/
def PatchValuesUK : JVal → Prop
  | .arr ops => ∀ op ∈ ops, OpValUK op
  | _ => True

theorem uk_of_mem_list {x : JVal} : ∀ {xs : List JVal}, UKList xs → x ∈ xs → UK x :=
  fun hw h => JsonPath.ukList_iff.1 hw x h

theorem patchValuesUK_of_uk {p : JVal} (hp : UK p) : PatchValuesUK p := by
  cases p with
  | arr ops =>
    intro op hm
    exact opValUK_of_uk (uk_of_mem_list (xs := ops) hp hm)
  | _ => trivial

/-- ATOMICITY for `jsoncons::ojson` (insertion-ordered objects), UP TO MEMBER ORDER: whenever
    `apply_patch` reports an error, the document is equal as a JSON value to the one it was given, and
    still has unique keys — under the unique-keys invariant of `basic_json` for the document and for the
    values carried by the patch. -/
theorem apply_atomic_ordered_values (d p : JVal) (hd : UK d) (hp : PatchValuesUK p) :
    (applyPatch true d p).1 ≠ none → JsonEq (applyPatch true d p).2 d ∧ UK (applyPatch true d p).2 := by
  intro h
  cases p with
  | arr ops =>
    have := applyLoop_atomic_ordered d ops d [] hp hd logVal_nil (REq.refl d) h
    exact ⟨this.2, this.1 hd⟩
  | _ => exact ⟨rfl, hd⟩

theorem apply_atomic_ordered (d p : JVal) (hd : UK d) (hp : UK p) :
    (applyPatch true d p).1 ≠ none → JsonEq (applyPatch true d p).2 d :=
  fun h => (apply_atomic_ordered_values d p hd (patchValuesUK_of_uk hp) h).1

/-- ATOMICITY (the statement of C15 for the model, both flavours): under the representation invariant
    of the object flavour — sorted unique keys for `json`, unique keys for `ojson` — a failing patch
    leaves the document equal as a JSON value (`JsonEq`; for `json` this is `=`, see `apply_atomic_sorted`). -/
theorem apply_atomic (ordered : Bool) (d p : JVal)
    (hd : if ordered then UK d else d.WF) (hp : if ordered then UK p else p.WF) :
    (applyPatch ordered d p).1 ≠ none → JsonEq (applyPatch ordered d p).2 d := by
  intro h
  cases ordered with
  | true => exact apply_atomic_ordered d p (by simpa using hd) (by simpa using hp) h
  | false =>
    have := apply_atomic_sorted d p (by simpa using hd) (by simpa using hp) h
    unfold JsonEq; rw [this]

/-- whatever is unwound after the entries an operation has logged is unwound from the document as it
    was before the operation (sorted objects) -/
theorem undo_inverts_op (t operation : JVal) (ht : t.WF) :
    ∀ s, unwind false (applyOp false t operation).2.1 ((applyOp false t operation).2.2 ++ s) = unwind false t s := by
  obtain ⟨t2, he, hu⟩ := applyOp_undoes Eq (fun _ => rfl) false t operation (fun _ => Or.inr (remInv_sorted t ht))
  subst he; exact hu

/-! ### non-vacuity / regression witnesses (evaluated by the kernel) -/

def docA : JVal := .obj [([97], .int 1)]
def opRemoveA : JVal := .obj [(sOp, .str sRemove), (sPath, .str [47, 97])]
def opAddRoot7 : JVal := .obj [(sOp, .str sAdd), (sPath, .str []), (sValue, .int 7)]
def opTestRoot8 : JVal := .obj [(sOp, .str sTest), (sPath, .str []), (sValue, .int 8)]
def opFrob : JVal := .obj [(sOp, .str [102, 114, 111, 98]), (sPath, .str [47, 97]), (sValue, .int 2)]

example : applyPatch false docA (.arr [opRemoveA, opAddRoot7, opTestRoot8]) = (some .testFailed, docA) := by decide +kernel
example : applyPatch false docA (.arr [opFrob]) = (some .invalidPatch, docA) := by decide +kernel
example : applyPatch false docA (.arr [opRemoveA, opAddRoot7]) = (none, .int 7) := by decide +kernel

/-! non-vacuity of `apply_atomic_sorted`: three operations succeed and modify the document
    (append through `-`, `move` out of an object into an array, `remove` with shifting), the fourth fails -/
def doc2 : JVal := .obj [([97], .arr [.int 1, .int 2]), ([98], .obj [([99], .int 3)])]
def opAddDash : JVal := .obj [(sOp, .str sAdd), (sPath, .str [47, 97, 47, 45]), (sValue, .int 9)]
def opMoveCA0 : JVal := .obj [(sFrom, .str [47, 98, 47, 99]), (sOp, .str sMove), (sPath, .str [47, 97, 47, 48])]
def opRemoveA1 : JVal := .obj [(sOp, .str sRemove), (sPath, .str [47, 97, 47, 49])]
def opReplaceZ : JVal := .obj [(sOp, .str sReplace), (sPath, .str [47, 122]), (sValue, .int 1)]
def patch3 : JVal := .arr [opAddDash, opMoveCA0, opRemoveA1]
def patch4 : JVal := .arr [opAddDash, opMoveCA0, opRemoveA1, opReplaceZ]

example : applyPatch false doc2 patch3 = (none, .obj [([97], .arr [.int 3, .int 2, .int 9]), ([98], .obj [])]) := by decide +kernel
example : applyPatch false doc2 patch4 = (some .replaceFailed, doc2) := by decide +kernel
example : doc2.WF ∧ patch4.WF := by
  simp [doc2, patch4, opAddDash, opMoveCA0, opRemoveA1, opReplaceZ, JVal.WF, WFList, WFMembers, Assoc.Sorted, keyLt,
    sOp, sPath, sValue, sFrom]
example : (applyPatch false doc2 patch4).2 = doc2 :=
  apply_atomic_sorted doc2 patch4
    (by simp [doc2, JVal.WF, WFList, WFMembers, Assoc.Sorted, keyLt])
    (by simp [patch4, opAddDash, opMoveCA0, opRemoveA1, opReplaceZ, JVal.WF, WFList, WFMembers, Assoc.Sorted, keyLt,
          sOp, sPath, sValue, sFrom])
    (by decide +kernel)

/-- the invariant is needed: on an unsorted "sorted-flavour" object the undo of `remove` re-inserts the
    member at its sorted position, not where it was -/
example : applyPatch false (.obj [([98], .int 2), ([97], .int 1)])
    (.arr [.obj [(sOp, .str sRemove), (sPath, .str [47, 98])], opTestRoot8])
    = (some .testFailed, .obj [([97], .int 1), ([98], .int 2)]) := by decide +kernel

/-- insertion-ordered objects (`ojson`): the undo of `remove` re-appends the member LAST, so the document
    comes back equal only up to member order -/
example : applyPatch true (.obj [([97], .int 1), ([98], .int 2)]) (.arr [opRemoveA, opTestRoot8])
    = (some .testFailed, .obj [([98], .int 2), ([97], .int 1)]) := by decide +kernel

/-- non-vacuity of `apply_atomic_no_removal` on an ordered object with a duplicate key -/
def opCopyAB : JVal := .obj [(sOp, .str sCopy), (sFrom, .str [47, 97]), (sPath, .str [47, 98])]
def opAddA5 : JVal := .obj [(sOp, .str sAdd), (sPath, .str [47, 97]), (sValue, .int 5)]
example : patchNoRemoval (.arr [opCopyAB, opAddA5, opAddRoot7, opTestRoot8]) = true := by decide +kernel
example : applyPatch true (.obj [([97], .int 1), ([97], .int 2)]) (.arr [opCopyAB, opAddA5, opAddRoot7]) = (none, .int 7) := by decide +kernel
example : applyPatch true (.obj [([97], .int 1), ([97], .int 2)]) (.arr [opCopyAB, opAddA5, opAddRoot7, opTestRoot8])
    = (some .testFailed, .obj [([97], .int 1), ([97], .int 2)]) := by decide +kernel

/-! non-vacuity of `apply_atomic_ordered`: three operations succeed (remove of an object member, append
    through `-`, `move` of a member into the array), the fourth fails; the document comes back with its
    members in a different order -/
def doc3 : JVal := .obj [([97], .int 1), ([98], .arr [.int 1]), ([99], .int 2)]
def opAddBDash : JVal := .obj [(sOp, .str sAdd), (sPath, .str [47, 98, 47, 45]), (sValue, .int 5)]
def opMoveCB0 : JVal := .obj [(sOp, .str sMove), (sFrom, .str [47, 99]), (sPath, .str [47, 98, 47, 48])]
def patchO3 : JVal := .arr [opRemoveA, opAddBDash, opMoveCB0]
def patchO4 : JVal := .arr [opRemoveA, opAddBDash, opMoveCB0, opTestRoot8]
example : applyPatch true doc3 patchO3 = (none, .obj [([98], .arr [.int 2, .int 1, .int 5])]) := by decide +kernel
example : applyPatch true doc3 patchO4
    = (some .testFailed, .obj [([98], .arr [.int 1]), ([99], .int 2), ([97], .int 1)]) := by decide +kernel
example : JsonEq (applyPatch true doc3 patchO4).2 doc3 :=
  apply_atomic_ordered doc3 patchO4
    (by simp [doc3, UK, UKList, UKMembers, Assoc.keys])
    (by simp [patchO4, opRemoveA, opAddBDash, opMoveCB0, opTestRoot8, UK, UKList, UKMembers, Assoc.keys,
          sOp, sPath, sValue, sFrom, sRemove, sAdd, sMove, sTest])
    (by decide +kernel)
/-- the unique-keys invariant is needed: with a duplicate key the undo of `remove` overwrites the
    shadowed member instead of re-creating the removed one -/
example : applyPatch true (.obj [([97], .int 1), ([97], .int 2)]) (.arr [opRemoveA, opTestRoot8])
    = (some .testFailed, .obj [([97], .int 1)]) := by decide +kernel

/-! non-vacuity of `apply_refines_spec` / `apply_iff_spec`: the three-operation patch above (append through
    `-`, `move` out of an object into an array, `remove` with shifting) and the insert-else-replace
    fallback (`add` to an existing member replaces it, RFC 6902 §4.1) -/
example : Spec.Rfc6902.applyPatch doc2 patch3 = some (.obj [([97], .arr [.int 3, .int 2, .int 9]), ([98], .obj [])]) := by decide +kernel
example : Spec.Rfc6902.applyPatch doc2 patch3 = some (applyPatch false doc2 patch3).2 :=
  apply_refines_spec doc2 patch3
    (by simp [doc2, JVal.WF, WFList, WFMembers, Assoc.Sorted, keyLt])
    (by simp [patch3, opAddDash, opMoveCA0, opRemoveA1, JVal.WF, WFList, WFMembers, Assoc.Sorted, keyLt,
          sOp, sPath, sValue, sFrom])
    (by decide +kernel)
example : applyPatch false docA (.arr [opAddA5]) = (none, .obj [([97], .int 5)])
    ∧ Spec.Rfc6902.applyPatch docA (.arr [opAddA5]) = some (.obj [([97], .int 5)]) := by decide +kernel
-- both reject: `-` for replace, an index with a leading zero, a `test` that fails
example : (applyPatch false doc2 (.arr [.obj [(sOp, .str sReplace), (sPath, .str [47, 97, 47, 45]), (sValue, .int 1)]])).1 ≠ none
    ∧ Spec.Rfc6902.applyPatch doc2 (.arr [.obj [(sOp, .str sReplace), (sPath, .str [47, 97, 47, 45]), (sValue, .int 1)]]) = none := by decide +kernel
example : (applyPatch false doc2 (.arr [.obj [(sOp, .str sRemove), (sPath, .str [47, 97, 47, 48, 49])]])).1 ≠ none
    ∧ Spec.Rfc6902.applyPatch doc2 (.arr [.obj [(sOp, .str sRemove), (sPath, .str [47, 97, 47, 48, 49])]]) = none := by decide +kernel

/-! non-vacuity of `diff_law`, and the representation invariant is needed for both documents -/
def docB : JVal := .obj [([97], .arr [.int 1, .obj [([45], .null)], .int 3]), ([99, 47, 126], .bool true)]
def docC : JVal := .obj [([97], .arr [.int 1, .obj [([45], .int 2), ([120], .null)]]), ([98], .str [120]), ([99, 47, 126], .arr [])]
example : applyPatch false docB (.arr (fromDiff false [] docB docC)) = (none, docC) := by decide +kernel
example : applyPatch false docC (.arr (fromDiff false [] docC docB)) = (none, docB) := by decide +kernel
example : (fromDiff false [] docB docC).length = 5 := by decide +kernel
example : applyPatch false (.obj []) (.arr (fromDiff false [] (.obj []) (.obj [([98], .int 1), ([97], .int 2)])))
    = (none, .obj [([97], .int 2), ([98], .int 1)]) := by decide +kernel
example : applyPatch false (.obj [([98], .int 1), ([97], .int 2)])
    (.arr (fromDiff false [] (.obj [([98], .int 1), ([97], .int 2)]) (.obj [([97], .int 2), ([98], .int 1)])))
    = (none, .obj [([98], .int 1), ([97], .int 2)]) := by decide +kernel

end JV.Props.C15
