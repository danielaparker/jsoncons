/-
  C17 — typed encoding and decoding are inverse and route-independent.

  `JV.Model.Typed.conv t j` is the composition "convert j to the C++ type described by t, express the result as JSON" that both
  routes (json_traits on a basic_json, decode_traits/encode_traits on the event stream) have to compute. The correspondence check
  runs 49 concrete C++ types — one per descriptor in the driver's table — through both routes in five formats and judges them
  against each other and against `conv`.

  Proved: for every descriptor built from integers, strings, booleans, sequences, maps, tuples, pairs, fixed arrays, optionals
  and enumerations, and every JSON value, the conversion is a retraction: if j converts to v then v converts to itself
  (`typed_round_trip`) — decoding the encoding of a typed value gives the value back; and the result of a failed conversion carries
  no value at all (`Except`), so no partly filled object can be returned. Sets, variants and structs (member macros) are in the
  model and in the check, not in the theorem (see DESIGN.md).
-/
import JV.Proofs.Typed
namespace JV
namespace Props
namespace C17
open Model.Typed

theorem typed_round_trip (t : Ty) (ht : Simple t) (j v : JVal) (h : conv t j = .ok v) : conv t v = .ok v :=
  conv_idem t ht j v h

/-- holds for failing conversions too (the error is passed on): the right disjunct is never needed -/
theorem conversion_is_idempotent (t : Ty) (ht : Simple t) (j : JVal) :
    (conv t j).bind (conv t) = conv t j ∨ ∃ e, conv t j = .error e :=
  Or.inl (conv_bind_conv t ht j)

/-- a tuple needs an element for every component: a shorter array is a conversion error, never a partly filled tuple -/
theorem short_tuple_is_an_error (t : Ty) (ts : List Ty) : convTuple (t :: ts) [] = .error .conv := by
  simp [convTuple]

theorem fixed_array_needs_exact_length (t : Ty) (n : Nat) (xs : List JVal) (h : xs.length ≠ n) :
    conv (.array t n) (.arr xs) = .error .conv := by
  simp [conv, h]

/-- a pair takes an array of exactly two elements: a shorter or a longer one is a conversion error, nothing is dropped -/
theorem pair_needs_exactly_two (a b : Ty) (xs : List JVal) (h : xs.length ≠ 2) :
    conv (.pair a b) (.arr xs) = .error .conv := by
  match xs, h with
  | [], _ => simp [conv]
  | [_], _ => simp [conv]
  | [_, _], h => exact absurd rfl h
  | _ :: _ :: _ :: _, _ => simp [conv]

/-! non-vacuity -/
example : Simple (.seq (.tuple [.int (-128) 127, .str, .opt .bool])) := by simp [Simple, SimpleList]
example : conv (.tuple [.int 0 255, .str]) (.arr [.int 7, .str [97], .null]) = .ok (.arr [.int 7, .str [97]]) := by
  simp [conv, convTuple]

end C17
end Props
end JV
