/-
  C02X — the translator tie for C02: tables of json_parser.hpp / json_error.hpp / unicode_traits.hpp /
  read_number.hpp, REGENERATED from the C++ source on every run (tools/extract.py → JV/Extracted/*.lean),
  agree with RFC 8259 / RFC 3629 as transcribed in JV.Spec.Rfc8259. The facts are finite: enumerations and
  case-label sets are unfolded, a 256-entry table is checked by one pass along it (`forall_at'`), and what follows from
  another statement (the in-string groups from the macro's set, the RFC 3629 lead bytes from the bit-pattern table) is
  derived from it. Changing a case label, an enumerator or a table entry in the headers changes the generated
  definition and breaks the theorem that names it.

  What is tied: the set of characters the parser refuses as control characters (the macro
  JSONCONS_ILLEGAL_CONTROL_CHARACTER plus the in-string group), its white-space sets, the numbering of
  json_errc / parse_state / parse_string_state / parse_number_state (the value-initialised states the code
  writes as `parse_string_state{}` must be `text`, an error_code of 0 must mean success), the number
  scanner's character classes (digi_table) and the UTF-8 tables/constants.
  What is not: the control flow of the 2000-line state machine (compared with the reference on every run).
  In `scalar_range_is_unicode` the hypotheses `lookup unicodeConstants "sur_high_start" = some hs` etc. have exactly one solution each:
  they only name the extracted constants.
-/
import JV.Spec.Rfc8259
import JV.Proofs.Utf8
import JV.Proofs.Tables
import JV.Extracted.Lookup
import JV.Extracted.JsonTables
import JV.Extracted.ErrorCodes
import JV.Extracted.Unicode
import JV.Extracted.Buffers
namespace JV.Props.C02X
open JV JV.Extracted Spec.Rfc8259

theorem illegal_control_iff (c : Nat) : c ∈ illegalControl ↔ (c < 0x20 ∧ c ≠ 9 ∧ c ≠ 10 ∧ c ≠ 13) := by
  -- membership in the 29 labels is evaluated only where it has to hold
  have listed : ∀ c ∈ illegalControl, c < 0x20 ∧ c ≠ 9 ∧ c ≠ 10 ∧ c ≠ 13 := by decide +kernel
  have complete : ∀ c, c < 0x20 → c ≠ 9 ∧ c ≠ 10 ∧ c ≠ 13 → c ∈ illegalControl := by decide +kernel
  exact ⟨listed c, fun h => complete c h.1 h.2⟩

/-- the macro lists exactly the RFC 8259 control characters other than the three white-space ones -/
theorem illegal_control_is_rfc8259 :
    ∀ c, c < 256 → (c ∈ illegalControl ↔ (c < 0x20 ∧ c ≠ 9 ∧ c ≠ 10 ∧ c ≠ 13)) :=
  fun c _ => illegal_control_iff c

theorem string_refused_iff (c : Nat) : (c ∈ illegalControl ∨ c ∈ stringIllegalWhitespace) ↔ c < 32 := by
  rw [illegal_control_iff]
  simp only [stringIllegalWhitespace, List.mem_cons, List.not_mem_nil, or_false]
  omega

/-- inside a string the macro's group and the `\n \r \t` group together are exactly %x00-1F, the characters the
    reference refuses (`parseChars`: `c < 32`, Props.C02.control_char_rejected) -/
theorem string_refuses_exactly_the_controls :
    ∀ c, c < 256 → ((c ∈ illegalControl ∨ c ∈ stringIllegalWhitespace) ↔ c < 32) :=
  fun c _ => string_refused_iff c

theorem string_groups_not_both (c : Nat) : ¬ (c ∈ illegalControl ∧ c ∈ stringIllegalWhitespace) := by
  rw [illegal_control_iff]
  simp only [stringIllegalWhitespace, List.mem_cons, List.not_mem_nil, or_false]
  omega

/-- … and the two groups do not overlap (each character has one error code) -/
theorem string_groups_disjoint : ∀ c, c < 256 → ¬ (c ∈ illegalControl ∧ c ∈ stringIllegalWhitespace) :=
  fun c _ => string_groups_not_both c

/-- the error codes named in the two groups exist in json_errc -/
theorem string_group_errors_exist :
    (lookup jsonErrc illegalControlError).isSome = true ∧ (lookup jsonErrc stringIllegalWhitespaceError).isSome = true
    ∧ (lookup jsonErrc trailingOtherError).isSome = true ∧ illegalControlError ≠ stringIllegalWhitespaceError := by
  simp [lookup, jsonErrc, illegalControlError, stringIllegalWhitespaceError, trailingOtherError]

theorem structural_whitespace_iff (c : Nat) : c ∈ structuralWhitespace ↔ isWs c = true := by
  simp only [structuralWhitespace, isWs, List.mem_cons, List.not_mem_nil, or_false, Bool.or_eq_true, decide_eq_true_eq]
  omega

/-- white space between tokens (the case group in front of every `skip_space`) is RFC 8259 `ws` -/
theorem structural_whitespace_is_rfc8259 : ∀ c, c < 256 → (c ∈ structuralWhitespace ↔ isWs c = true) :=
  fun c _ => structural_whitespace_iff c

theorem trailing_whitespace_iff (c : Nat) : c ∈ trailingWhitespace ↔ isWs c = true := by
  simp only [trailingWhitespace, isWs, List.mem_cons, List.not_mem_nil, or_false, Bool.or_eq_true, decide_eq_true_eq]
  omega

/-- white space after the top-level value (`check_done`) is RFC 8259 `ws` -/
theorem trailing_whitespace_is_rfc8259 : ∀ c, c < 256 → (c ∈ trailingWhitespace ↔ isWs c = true) :=
  fun c _ => trailing_whitespace_iff c

/-- no character is both white space and an illegal control character -/
theorem whitespace_not_illegal : ∀ c ∈ structuralWhitespace, c ∉ illegalControl := by decide +kernel

/-- numeric value of a json_errc enumerator in the C++ source -/
def errc (name : String) : Option Nat := lookup jsonErrc name
/-- likewise for the enumerators of `parse_state` -/
def parseStateNum (name : String) : Option Nat := lookup parseState name
/-- likewise for `parse_string_state` -/
def parseStringStateNum (name : String) : Option Nat := lookup parseStringState name
/-- likewise for `parse_number_state` -/
def parseNumberStateNum (name : String) : Option Nat := lookup parseNumberState name

section
-- a lookup is unfolded along the enumeration, comparing the names as literals
attribute [local simp] errc lookup jsonErrc

theorem errc_success : errc "success" = some 0 := by simp
theorem errc_unexpected_eof : errc "unexpected_eof" = some 1 := by simp
theorem errc_source_error : errc "source_error" = some 2 := by simp
theorem errc_syntax_error : errc "syntax_error" = some 3 := by simp
theorem errc_extra_character : errc "extra_character" = some 4 := by simp
theorem errc_max_nesting_depth_exceeded : errc "max_nesting_depth_exceeded" = some 5 := by simp
theorem errc_single_quote : errc "single_quote" = some 6 := by simp
theorem errc_illegal_character_in_string : errc "illegal_character_in_string" = some 7 := by simp
theorem errc_extra_comma : errc "extra_comma" = some 8 := by simp
theorem errc_expected_key : errc "expected_key" = some 9 := by simp
theorem errc_expected_value : errc "expected_value" = some 10 := by simp
theorem errc_invalid_value : errc "invalid_value" = some 11 := by simp
theorem errc_expected_colon : errc "expected_colon" = some 12 := by simp
theorem errc_illegal_control_character : errc "illegal_control_character" = some 13 := by simp
theorem errc_illegal_escaped_character : errc "illegal_escaped_character" = some 14 := by simp
theorem errc_expected_codepoint_surrogate_pair : errc "expected_codepoint_surrogate_pair" = some 15 := by simp
theorem errc_invalid_hex_escape_sequence : errc "invalid_hex_escape_sequence" = some 16 := by simp
theorem errc_invalid_unicode_escape_sequence : errc "invalid_unicode_escape_sequence" = some 17 := by simp
theorem errc_leading_zero : errc "leading_zero" = some 18 := by simp
theorem errc_invalid_number : errc "invalid_number" = some 19 := by simp
theorem errc_expected_comma_or_rbrace : errc "expected_comma_or_rbrace" = some 20 := by simp
theorem errc_expected_comma_or_rbracket : errc "expected_comma_or_rbracket" = some 21 := by simp
theorem errc_unexpected_rbracket : errc "unexpected_rbracket" = some 22 := by simp
theorem errc_unexpected_rbrace : errc "unexpected_rbrace" = some 23 := by simp
theorem errc_illegal_comment : errc "illegal_comment" = some 24 := by simp
theorem errc_bad_continuation_byte : errc "bad_continuation_byte" = some 25 := by simp
theorem errc_over_long_utf8_sequence : errc "over_long_utf8_sequence" = some 26 := by simp
theorem errc_illegal_codepoint : errc "illegal_codepoint" = some 27 := by simp
theorem errc_illegal_surrogate_value : errc "illegal_surrogate_value" = some 28 := by simp
theorem errc_unpaired_high_surrogate : errc "unpaired_high_surrogate" = some 29 := by simp
theorem errc_illegal_unicode_character : errc "illegal_unicode_character" = some 30 := by simp
theorem errc_unexpected_character : errc "unexpected_character" = some 31 := by simp

end

/-- there are no other enumerators, and the values are pairwise distinct (so a value names one error) -/
theorem errc_complete : jsonErrc.length = 32 ∧ distinct (values jsonErrc) = true := by decide +kernel

/-- `parse_state`, in the order a model of the state machine numbers them; fits the `uint8_t` it is stored in -/
theorem parse_state_numbering :
    parseState = [("root", 0), ("start", 1), ("accept", 2), ("slash", 3), ("slash_slash", 4), ("slash_star", 5), ("slash_star_star", 6),
      ("expect_comma_or_end", 7), ("object", 8), ("expect_member_name_or_end", 9), ("expect_member_name", 10), ("expect_colon", 11),
      ("expect_value_or_end", 12), ("expect_value", 13), ("array", 14), ("string", 15), ("member_name", 16), ("number", 17),
      ("n", 18), ("nu", 19), ("nul", 20), ("t", 21), ("tr", 22), ("tru", 23), ("f", 24), ("fa", 25), ("fal", 26), ("fals", 27),
      ("cr", 28), ("done", 29)]
    ∧ (∀ v ∈ values parseState, v < 256) := ⟨rfl, by decide +kernel⟩

theorem parse_string_state_numbering :
    parseStringState = [("text", 0), ("escape", 1), ("escape_u1", 2), ("escape_u2", 3), ("escape_u3", 4), ("escape_u4", 5),
      ("escape_expect_surrogate_pair1", 6), ("escape_expect_surrogate_pair2", 7), ("escape_u5", 8), ("escape_u6", 9),
      ("escape_u7", 10), ("escape_u8", 11)] := rfl

theorem parse_number_state_numbering :
    parseNumberState = [("minus", 0), ("zero", 1), ("integer", 2), ("fraction1", 3), ("fraction2", 4), ("exp1", 5), ("exp2", 6), ("exp3", 7)] := rfl

/-- the parser resets with `string_state_ = parse_string_state{}` (nine places): the value-initialised state must be `text`;
    the four `\uXXXX` digit states, and the four of the low surrogate, are consecutive (the code advances through them one by one) -/
theorem value_initialised_string_state_is_text :
    parseStringStateNum "text" = some 0
    ∧ (parseStringStateNum "escape_u1", parseStringStateNum "escape_u2", parseStringStateNum "escape_u3", parseStringStateNum "escape_u4") = (some 2, some 3, some 4, some 5)
    ∧ (parseStringStateNum "escape_u5", parseStringStateNum "escape_u6", parseStringStateNum "escape_u7", parseStringStateNum "escape_u8") = (some 8, some 9, some 10, some 11) := by
  simp [parseStringStateNum, lookup, parseStringState]

/-! ### the number scanner's character classes (digi_table, read_number.hpp) -/

/-- class bits by RFC 8259 `number`: "0" → 1, %x31-39 → 2, "+" → 4, "-" → 8, "." → 16, "e"/"E" → 32 -/
def numberClass (c : Nat) : Nat :=
  if c = 48 then 1 else if 49 ≤ c ∧ c ≤ 57 then 2 else if c = 43 then 4 else if c = 45 then 8 else if c = 46 then 16
  else if c = 101 ∨ c = 69 then 32 else 0

theorem digi_table_is_number_grammar : digiTable.length = 256 ∧ ∀ c, c < 256 → at' digiTable c = numberClass c :=
  have len : digiTable.length = 256 := by decide +kernel
  ⟨len, forall_at' (fun c v => v = numberClass c) len (by decide +kernel)⟩

theorem digit_type_bits :
    digitTypeBits = [("DIGIT_TYPE_ZERO", 1), ("DIGIT_TYPE_NONZERO", 2), ("DIGIT_TYPE_POS", 4), ("DIGIT_TYPE_NEG", 8), ("DIGIT_TYPE_DOT", 16),
      ("DIGIT_TYPE_EXP", 32)] := rfl

/-- `is_type(c, mask)` -/
def isType (c mask : Nat) : Bool := at' digiTable c &&& mask != 0

/-- the masks the `char` predicates pass to `is_type`, as combined in the source from the DIGIT_TYPE_* bits -/
theorem digit_predicate_masks :
    digitPredicates = [("is_sign", 4 ||| 8), ("is_nonzero_digit", 2), ("is_digit", 1 ||| 2), ("is_exp", 32), ("is_fp_indicator", 16 ||| 32),
      ("is_digit_or_fp", 1 ||| 2 ||| 16 ||| 32)] := rfl

/-- the mask a predicate of the source passes to `is_type` (0, which matches nothing, if the source has no such predicate) -/
def maskOf (name : String) : Nat := (lookup digitPredicates name).getD 0

def predicate (name : String) (c : Nat) : Bool := isType c (maskOf name)

/-- the predicates the scanner uses select exactly the characters of the grammar: is_digit = DIGIT, is_nonzero_digit = %x31-39,
    is_sign = "+"/"-", is_exp = "e"/"E", is_fp_indicator = "." / e / E -/
theorem digit_predicates_are_rfc8259 :
    (∀ c, c < 256 → predicate "is_digit" c = isDigit c)
    ∧ (∀ c, c < 256 → predicate "is_nonzero_digit" c = decide (49 ≤ c ∧ c ≤ 57))
    ∧ (∀ c, c < 256 → predicate "is_sign" c = decide (c = 43 ∨ c = 45))
    ∧ (∀ c, c < 256 → predicate "is_exp" c = decide (c = 101 ∨ c = 69))
    ∧ (∀ c, c < 256 → predicate "is_fp_indicator" c = decide (c = 46 ∨ c = 101 ∨ c = 69))
    ∧ (∀ c, c < 256 → predicate "is_digit_or_fp" c = (isDigit c || decide (c = 46 ∨ c = 101 ∨ c = 69))) := by
  have masks : maskOf "is_digit" = 3 ∧ maskOf "is_nonzero_digit" = 2 ∧ maskOf "is_sign" = 12 ∧ maskOf "is_exp" = 32
      ∧ maskOf "is_fp_indicator" = 48 ∧ maskOf "is_digit_or_fp" = 51 := by
    simp [maskOf, lookup, digitPredicates]
  -- all six masks are tried on each entry in one pass along the table
  have table := forall_at' (t := digiTable)
    (fun c v => (v &&& 3 != 0) = isDigit c
      ∧ (v &&& 2 != 0) = decide (49 ≤ c ∧ c ≤ 57)
      ∧ (v &&& 12 != 0) = decide (c = 43 ∨ c = 45)
      ∧ (v &&& 32 != 0) = decide (c = 101 ∨ c = 69)
      ∧ (v &&& 48 != 0) = decide (c = 46 ∨ c = 101 ∨ c = 69)
      ∧ (v &&& 51 != 0) = (isDigit c || decide (c = 46 ∨ c = 101 ∨ c = 69)))
    digi_table_is_number_grammar.1 (by decide +kernel)
  simp only [predicate, isType, masks, ← forall_and]
  exact table

/-! ### UTF-8 tables and constants (unicode_traits.hpp) -/

/-- number of continuation bytes announced by a lead byte, by bit pattern (ConvertUTF; 4 and 5 are the obsolete 5/6-byte forms) -/
def trailingByPattern (b : Nat) : Nat :=
  if b < 0xC0 then 0 else if b < 0xE0 then 1 else if b < 0xF0 then 2 else if b < 0xF8 then 3 else if b < 0xFC then 4 else 5

theorem trailing_bytes_table : trailingBytesForUtf8.length = 256 ∧ ∀ b, b < 256 → at' trailingBytesForUtf8 b = trailingByPattern b :=
  have len : trailingBytesForUtf8.length = 256 := by decide +kernel
  ⟨len, forall_at' (fun b v => v = trailingByPattern b) len (by decide +kernel)⟩

/-- each class of lead bytes lies inside the table, where the entry is the bit pattern's -/
theorem trailing_bytes_of_lead (b : Nat) :
    (b < 0x80 → at' trailingBytesForUtf8 b = 0) ∧ (0xC2 ≤ b ∧ b ≤ 0xDF → at' trailingBytesForUtf8 b = 1)
    ∧ (0xE0 ≤ b ∧ b ≤ 0xEF → at' trailingBytesForUtf8 b = 2) ∧ (0xF0 ≤ b ∧ b ≤ 0xF4 → at' trailingBytesForUtf8 b = 3) := by
  refine ⟨fun h => ?_, fun h => ?_, fun h => ?_, fun h => ?_⟩
  · rw [trailing_bytes_table.2 b (by omega), trailingByPattern, if_pos (by omega)]
  · rw [trailing_bytes_table.2 b (by omega), trailingByPattern, if_neg (by omega), if_pos (by omega)]
  · rw [trailing_bytes_table.2 b (by omega), trailingByPattern, if_neg (by omega), if_neg (by omega), if_pos (by omega)]
  · rw [trailing_bytes_table.2 b (by omega), trailingByPattern, if_neg (by omega), if_neg (by omega), if_neg (by omega),
      if_pos (by omega)]

/-- on every lead byte RFC 3629 allows (the classes of the reference `validUtf8`: 00-7F, C2-DF, E0-EF, F0-F4) the table gives the
    number of continuation bytes the reference consumes; every other byte ≥ 0x80 must be refused elsewhere -/
theorem trailing_bytes_agree_with_rfc3629 :
    ∀ b, b < 256 →
      (b < 0x80 → at' trailingBytesForUtf8 b = 0) ∧ (0xC2 ≤ b ∧ b ≤ 0xDF → at' trailingBytesForUtf8 b = 1)
      ∧ (0xE0 ≤ b ∧ b ≤ 0xEF → at' trailingBytesForUtf8 b = 2) ∧ (0xF0 ≤ b ∧ b ≤ 0xF4 → at' trailingBytesForUtf8 b = 3) :=
  fun b _ => trailing_bytes_of_lead b

/-- `is_continuation_byte` is `10xxxxxx`, the range 80-BF of the reference -/
theorem continuation_byte_is_80_BF :
    continuationByte.length = 2 ∧ ∀ b, b < 256 → ((b &&& at' continuationByte 0 = at' continuationByte 1) ↔ (0x80 ≤ b ∧ b ≤ 0xBF)) := by
  decide +kernel

theorem first_byte_mark_table : firstByteMark = [0x00, 0x00, 0xC0, 0xE0, 0xF0, 0xF8, 0xFC] := rfl

/-- the first byte the reference encoder writes is the table's mark for that length plus the leading payload bits — for every code point -/
theorem first_byte_mark_is_rfc3629 (cp : Nat) :
    (utf8Encode cp).head? = some (at' firstByteMark (utf8Encode cp).length + cp / 64 ^ ((utf8Encode cp).length - 1)) := by
  unfold utf8Encode
  split
  · simp [at', firstByteMark]
  · split
    · simp [at', firstByteMark]
    · split
      · simp [at', firstByteMark]
      · simp [at', firstByteMark]

/-- `ch = ch * 64 + byte` over the bytes of a sequence, as `to_codepoint`/`convert` accumulate -/
def accumulate : Bytes → Nat → Nat
  | [], acc => acc
  | b :: bs, acc => accumulate bs (acc * 64 + b)

/-- the accumulated bytes of the UTF-8 encoding are the scalar value plus `offsets_from_utf8[trailing bytes]`: the offset is what the
    lead-byte mark and the `0x80`s of the continuation bytes add up to -/
theorem accumulate_utf8Encode (cp : Nat) (h : cp < 0x110000) :
    accumulate (utf8Encode cp) 0 = cp + at' offsetsFromUtf8 ((utf8Encode cp).length - 1) := by
  unfold utf8Encode
  split
  · simp [accumulate, at', offsetsFromUtf8]
  · split
    · simp [accumulate, at', offsetsFromUtf8]; omega
    · split
      · simp [accumulate, at', offsetsFromUtf8]; omega
      · simp [accumulate, at', offsetsFromUtf8]; omega

/-- subtracting `offsets_from_utf8[trailing bytes]` from the accumulated bytes of the UTF-8 encoding gives back the scalar value -/
theorem offsets_from_utf8_decode (cp : Nat) (h : cp < 0x110000) :
    accumulate (utf8Encode cp) 0 - at' offsetsFromUtf8 ((utf8Encode cp).length - 1) = cp := by
  rw [accumulate_utf8Encode cp h]
  omega

/-- … and nothing is lost in the subtraction (the accumulated value is never below the offset) -/
theorem offsets_from_utf8_no_underflow (cp : Nat) (h : cp < 0x110000) :
    at' offsetsFromUtf8 ((utf8Encode cp).length - 1) ≤ accumulate (utf8Encode cp) 0 := by
  rw [accumulate_utf8Encode cp h]
  omega

/-- the named constants are those of Unicode: scalar values are below 0x110000 and outside D800-DFFF (`Proofs.Utf8.IsScalar`) -/
theorem unicode_constants :
    lookup unicodeConstants "max_legal_utf32" = some 0x10FFFF ∧ lookup unicodeConstants "max_utf16" = some 0x10FFFF
    ∧ lookup unicodeConstants "max_bmp" = some 0xFFFF ∧ lookup unicodeConstants "replacement_char" = some 0xFFFD
    ∧ lookup unicodeConstants "sur_high_start" = some 0xD800 ∧ lookup unicodeConstants "sur_high_end" = some 0xDBFF
    ∧ lookup unicodeConstants "sur_low_start" = some 0xDC00 ∧ lookup unicodeConstants "sur_low_end" = some 0xDFFF
    ∧ lookup unicodeConstants "half_shift" = some 10 ∧ lookup unicodeConstants "half_base" = some 0x10000
    ∧ lookup unicodeConstants "half_mask" = some 0x3FF := by simp [lookup, unicodeConstants]

/-- with the extracted constants, "≤ max_legal_utf32 and not in [sur_high_start, sur_low_end]" is `IsScalar` -/
theorem scalar_range_is_unicode (cp hs le mx : Nat) (h1 : lookup unicodeConstants "sur_high_start" = some hs)
    (h2 : lookup unicodeConstants "sur_low_end" = some le) (h3 : lookup unicodeConstants "max_legal_utf32" = some mx) :
    (cp ≤ mx ∧ ¬ (hs ≤ cp ∧ cp ≤ le)) ↔ IsScalar cp := by
  have e1 : hs = 0xD800 := by have := unicode_constants.2.2.2.2.1; rw [h1] at this; exact Option.some.inj this
  have e2 : le = 0xDFFF := by have := unicode_constants.2.2.2.2.2.2.2.1; rw [h2] at this; exact Option.some.inj this
  have e3 : mx = 0x10FFFF := by have := unicode_constants.1; rw [h3] at this; exact Option.some.inj this
  subst e1 e2 e3
  unfold IsScalar
  omega

theorem byte_order_marks :
    bomUtf8 = [0xEF, 0xBB, 0xBF] ∧ bomUtf16le = [0xFF, 0xFE] ∧ bomUtf16be = [0xFE, 0xFF]
    ∧ bomUtf32le = [0xFF, 0xFE, 0, 0] ∧ bomUtf32be = [0, 0, 0xFE, 0xFF] ∧ bomUtf8 = utf8Encode 0xFEFF := by decide +kernel

end JV.Props.C02X
