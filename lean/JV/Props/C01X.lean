/-
  C01X — the translator tie for C01: the case labels and constants of `escape_string` (json_encoders.hpp) and of
  `to_hex_character` (write_number.hpp), REGENERATED from the C++ source on every run (tools/extract.py →
  JV/Extracted/JsonTables.lean), are the ones the model JV.Model.JsonEscape was written with — the model about which
  Props.C01.escape_unescape is proved.

  `fromSource` below is the escaper's per-character decision rebuilt ONLY from the extracted data (which bytes have a
  two-character escape and which letter, the solidus branch, the control-character test, the hex digit formula).
  The theorem says the hand-written model computes the same output on every one-character string under all four
  option settings; together with the correspondence stream (model vs real escape_string on generated strings) this
  pins the per-byte table from both sides.
-/
import JV.Model.JsonEscape
import JV.Extracted.Lookup
import JV.Extracted.JsonTables
namespace JV.Props.C01X
open JV JV.Extracted Model.JsonEscape

/-- `to_hex_character` rebuilt from the extracted `(c < a) ? (b + c) : (d - e + c)` -/
def hexFromSource (n : Nat) : Nat :=
  if n < at' hexCharacter 0 then at' hexCharacter 1 + n else at' hexCharacter 2 - at' hexCharacter 3 + n

/-- `\uXXXX` with the extracted hex digits -/
def u4FromSource (cp : Nat) : Bytes :=
  [92, 117, hexFromSource (cp / 4096 % 16), hexFromSource (cp / 256 % 16), hexFromSource (cp / 16 % 16), hexFromSource (cp % 16)]

/-- `is_control_character` rebuilt from the extracted bound and extra value -/
def isControlFromSource (c : Nat) : Bool := c ≤ controlMax || controlAlso.contains c

def caseFor (c : Nat) : List (Nat × Nat × Nat) → Option (Nat × Nat)
  | [] => none
  | (b, x, y) :: r => if b = c then some (x, y) else caseFor c r

/-- output of the escaper on the one-byte string `[c]`, from the extracted tables alone (`none` = throws illegal_codepoint:
    a lone byte ≥ 0x80 is not a UTF-8 sequence, and is only looked at when escape_all_non_ascii is on) -/
def fromSource (escAll solidus : Bool) (c : Nat) : Option Bytes :=
  match caseFor c escapeCases with
  | some (x, y) => some [x, y]
  | none =>
    if solidus && c = escapeSolidus.1 then some [escapeSolidus.2.1, escapeSolidus.2.2]
    else if isControlFromSource c || escAll then
      if c ≥ nonAsciiMin then none
      else if isControlFromSource c then some (u4FromSource c) else some [c]
    else some [c]

/-- the model's per-byte behaviour is the source's case table, for every byte and all four option settings -/
theorem escape_class_agrees :
    ∀ c, c < 256 → ∀ escAll solidus : Bool, escapeString escAll solidus [c] = fromSource escAll solidus c := by decide +kernel

/-- the special cases, spelled out: exactly `\\ \" \b \f \n \r \t`, each written as backslash + letter -/
theorem escape_cases_are_rfc8259 :
    escapeCases = [(92, 92, 92), (34, 92, 34), (8, 92, 98), (12, 92, 102), (10, 92, 110), (13, 92, 114), (9, 92, 116)]
    ∧ escapeSolidus = (47, 92, 47) := by decide

/-- every control character %x00-1F (which RFC 8259 requires to be escaped) is escaped by the source's rules: it has a case label or
    passes `is_control_character`; and no printable ASCII character other than `"` and `\` is touched when escape_solidus is off -/
theorem every_control_is_escaped :
    ∀ c, c < 128 → ((c < 32 → ((caseFor c escapeCases).isSome || isControlFromSource c) = true)
      ∧ (32 ≤ c ∧ c ≠ 34 ∧ c ≠ 92 ∧ c ≠ 127 → fromSource false false c = some [c])) := by decide +kernel

/-- `to_hex_character` is the model's `hexChar` (upper-case digits) -/
theorem hex_character_agrees : ∀ n, n < 16 → hexChar n = hexFromSource n := by decide

theorem isControl_eq_fromSource (c : Nat) : isControl c = isControlFromSource c := by
  simp [isControl, isControlFromSource, controlAlso, show controlMax = 0x1F from rfl]

/-- `is_control_character` is the model's `isControl` -/
theorem is_control_agrees : ∀ c, c < 256 → isControl c = isControlFromSource c :=
  fun c _ => isControl_eq_fromSource c

/-- surrogate-pair arithmetic: the source's `cp -= 0x10000; (cp >> 10) + 0xD800; (cp & 0x3FF) + 0xDC00` under `cp > 0xFFFF` is the
    model's `v / 1024 + 0xD800`, `v % 1024 + 0xDC00` -/
theorem surrogate_arithmetic_agrees (v : Nat) :
    escapeMaxBmp = 0xFFFF ∧ at' escapeSurrogateArith 0 = 0x10000
    ∧ (v >>> at' escapeSurrogateArith 1) + at' escapeSurrogateArith 2 = v / 1024 + 0xD800
    ∧ (v &&& at' escapeSurrogateArith 3) + at' escapeSurrogateArith 4 = v % 1024 + 0xDC00 := by
  refine ⟨by decide, by decide, ?_, ?_⟩
  · have : at' escapeSurrogateArith 1 = 10 ∧ at' escapeSurrogateArith 2 = 0xD800 := by decide
    rw [this.1, this.2, Nat.shiftRight_eq_div_pow]
  · have : at' escapeSurrogateArith 3 = 2 ^ 10 - 1 ∧ at' escapeSurrogateArith 4 = 0xDC00 := by decide
    rw [this.1, this.2, Nat.and_two_pow_sub_one_eq_mod]

end JV.Props.C01X
