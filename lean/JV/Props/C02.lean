/-
  C02 — the JSON parser accepts exactly RFC 8259 and yields the specified value.

  The reference against which the real parser is judged on every run is JV.Spec.Rfc8259.parseText, a
  recursive-descent transcription of the RFC grammar (plus one production each for comments and
  trailing commas, and a nesting limit). The accept/reject decision and the value of the real parser
  (json_parser.hpp, a 2000-line hand-written state machine) are compared with the reference on every
  string of ≤ 3/4 tokens over a 29-token alphabet, on rendered+mutated documents, on comment/comma
  placements in every gap, on nesting depth limit-1/limit/limit+1 and on wide objects with duplicate
  names (see evidence).

  Proved here, about the reference: its string production accepts exactly the UTF-8 encodings of
  sequences of Unicode scalar values (no overlongs, no surrogates, nothing above U+10FFFF), and a
  collection of grammar facts the property names: leading zeros and control characters for all
  continuations, trailing commas and comments as instances (the nesting limit is in C10).
  Proved here, about the model of the parser's state machine (JV.Model.JsonParser, from the section
  "the parser itself" on): it accepts every text of the reference with the events of its value, and with
  comments off it accepts nothing else but texts with one of two surrogate anomalies.
-/
import JV.Proofs.Utf8
import JV.Proofs.JsonParserNumber
import JV.Proofs.JsonParserString
import JV.Proofs.JsonParserComplete
import JV.Proofs.JsonParserSound
import JV.Proofs.JsonParserComments
import JV.Proofs.JsonParserInvariants
import JV.Proofs.JsonParserSoundNec
namespace JV.Props.C02
open JV Spec.Rfc8259

/-- every sequence of scalar values encodes to a string the grammar accepts -/
theorem utf8_valid_of_scalars (cps : List Nat) (h : ∀ cp ∈ cps, IsScalar cp) : validUtf8 (encodeAll cps) = true :=
  validUtf8_encodeAll cps h

/-- whatever the grammar's validator accepts is the encoding of a sequence of scalar values -/
theorem utf8_scalars_of_valid (bs : Bytes) (h : validUtf8 bs = true) :
    ∃ cps, (∀ cp ∈ cps, IsScalar cp) ∧ bs = encodeAll cps :=
  validUtf8_decode bs.length bs (Nat.le_refl _) h

/-- a number may not have a leading zero, whatever follows -/
theorem no_leading_zero (d : Nat) (hd : isDigit d = true) (rest : Bytes) :
    parseNumber (48 :: d :: rest) = some ([48], d :: rest) := by
  have h1 : d ≠ 46 := by simp [isDigit] at hd; omega
  have h2 : ¬ (d = 101 ∨ d = 69) := by simp [isDigit] at hd; omega
  simp [parseNumber, h1, h2]

/-- … so the two-character text `0d` has no value, whatever the flags -/
theorem leading_zero_rejected (fl : Flags) (d : Nat) (hd : isDigit d = true) : parseText fl [48, d] = none := by
  have hv : parseValue fl 3 0 [48, d] = some (.num [48], [d]) := by
    simp [parseValue, no_leading_zero d hd []]
  have hd : 48 ≤ d ∧ d ≤ 57 := by simpa [isDigit] using hd
  have hws : isWs d = false := by simp [isWs]; omega
  unfold parseText
  rw [skipWs_nonws fl.comments _ 48 [d] rfl (by decide)]
  simp only [List.length_cons, List.length_nil, hv, skipWs_nonws fl.comments _ d [] hws (by omega)]

/-- a raw control character inside a string is never accepted -/
theorem control_char_rejected (fuel : Nat) (c : Nat) (hc : c < 32) (rest : Bytes) : parseChars (fuel + 1) (c :: rest) = none := by
  have : c ≠ 34 := by omega
  simp [parseChars, this, hc]

/-! ### the parser itself (Model: JV.Model.JsonParser — one arm per cell of json_parser.hpp's state machine, tied to the real parser
    state by state and outcome by outcome by the `parser-model` stream) -/
section ParserModel
open Model.JsonParser

/-- the UTF-8 check every completed string goes through (`unicode_traits::validate` = `trailing_bytes_for_utf8` + `is_legal_utf8`)
    accepts exactly well-formed UTF-8 in the sense of RFC 3629 — for every byte string -/
theorem validator_is_rfc3629 (bs : Bytes) : validate bs = none ↔ Spec.Rfc8259.validUtf8 bs = true := validate_iff bs

/-- the number sub-automaton (`parse_number`: minus / zero / integer / fraction1 / fraction2 / exp1 / exp2 / exp3) accepts exactly
    the byte strings that the RFC 8259 number production derives — for every byte string -/
theorem number_lexer_is_rfc8259 (bs : Bytes) : numAccepts bs = true ↔ ∃ lit, Spec.Rfc8259.parseNumber bs = some (lit, []) :=
  numAccepts_iff bs

/-- whenever the automaton moves, `parse_number` consumes the character, appends it to the buffer and moves the same way -/
theorem number_step_follows_automaton (s : St) (c : Nat) (ns' : NS) (h : numNext s.ns c = some ns') :
    stepNumber s c = ({ s with buf := s.buf ++ [c], ns := ns' }, true) := stepNumber_of_numNext s c ns' h

/-- a text that is one RFC 8259 number is accepted under every configuration and reported as exactly one number event carrying the
    literal unchanged (its classification into int64/uint64/double/bignum text is C04's `classifyInteger`) -/
theorem number_text_is_accepted (cfg : Cfg) (lit : Bytes) (h : ∃ l, Spec.Rfc8259.parseNumber lit = some (l, [])) :
    accepted (run cfg lit) = true ∧ ((run cfg lit).evs = [Ev.int lit] ∨ (run cfg lit).evs = [Ev.frac lit]) :=
  number_text_accepted cfg lit ((numAccepts_iff lit).2 h)

/-- every `\uXXXX` escape that denotes a scalar value is decoded to that scalar's UTF-8 (the code unit is the one the reference's
    `hex4` reads), for every parser state inside a string after a backslash -/
theorem escape_decodes_scalar (cfg : Cfg) (s : St) (a b c d u : Nat) (hst : s.st = .string) (hss : s.ss = .escape) (he : s.err = none)
    (hx : hex4 [a, b, c, d] = some (u, [])) (hu : u < 0xD800 ∨ 0xE000 ≤ u) :
    feed cfg s [117, a, b, c, d] = { s with cp := u, buf := s.buf ++ utf8Encode u, ss := .text } :=
  escape_u_scalar cfg s a b c d u hst hss he hx hu

/-- a surrogate pair `\uD8xx\uDCxx` is decoded to the UTF-8 of the ONE scalar value it denotes, 0x10000 + (hi-0xD800)*0x400 + (lo-0xDC00) -/
theorem surrogate_pair_decodes_scalar (cfg : Cfg) (s : St) (a b c d e f g h hi lo : Nat) (hst : s.st = .string) (hss : s.ss = .escape)
    (he : s.err = none) (hx : hex4 [a, b, c, d] = some (hi, [])) (hy : hex4 [e, f, g, h] = some (lo, []))
    (hhi : 0xD800 ≤ hi ∧ hi ≤ 0xDBFF) (hlo : 0xDC00 ≤ lo ∧ lo ≤ 0xDFFF) :
    feed cfg s [117, a, b, c, d, 92, 117, e, f, g, h] =
      { s with cp := hi, cp2 := lo, buf := s.buf ++ utf8Encode (0x10000 + (hi - 0xD800) * 1024 + (lo - 0xDC00)), ss := .text } :=
  escape_u_pair cfg s a b c d e f g h hi lo hst hss he hx hy hhi hlo

/-- at no point of any input does a parser that has not failed sit deeper than `max_nesting_depth` -/
theorem nesting_never_exceeds_limit (cfg : Cfg) (text : Bytes) (h : (feed cfg init text).err = none) :
    (feed cfg init text).level ≤ cfg.maxDepth :=
  levelOK_feed cfg init text (levelOK_init cfg) h

/-- the limit is exact: a container opened at the limit is refused with max_nesting_depth_exceeded, one opened below it is not -/
theorem nesting_limit_exact (cfg : Cfg) (s : St) :
    (s.level = cfg.maxDepth → (beginArray cfg s).err = some eMaxDepth ∧ (beginObject cfg s).err = some eMaxDepth) ∧
    (s.level < cfg.maxDepth → (beginArray cfg s).err = s.err ∧ (beginObject cfg s).err = s.err) :=
  ⟨fun h => ⟨beginArray_at_limit cfg s h, beginObject_at_limit cfg s h⟩,
   fun h => ⟨(beginArray_below_limit cfg s h).1, (beginObject_below_limit cfg s h).1⟩⟩

-- kernel-evaluated instances of the model (the same definitions the driver runs against the real parser)
example : accepted (run ⟨2, false, false⟩ [91, 91, 93, 93]) = true := by decide +kernel                              -- [[]] at limit 2
example : (run ⟨2, false, false⟩ [91, 91, 91, 93, 93, 93]).err = some eMaxDepth := by decide +kernel                 -- [[[]]] at limit 2
example : (run ⟨9, true, false⟩ [91, 49, 47, 42, 32, 97, 42, 42, 47, 93]).err = none := by decide +kernel            -- [1/* a**/]  (D80)
example : (run ⟨9, false, false⟩ [48, 49]).err = some eLeadingZero := by decide +kernel                               -- 01
example : (run ⟨9, false, false⟩ [34, 92, 117, 100, 56, 51, 100, 92, 117, 100, 101, 48, 48, 34]).evs = [Ev.str [240, 159, 152, 128] false] := by decide +kernel
end ParserModel

/-! ### refinement, both directions. Completeness first: the parser model accepts EVERY text the RFC 8259 reference accepts and
    reports the value the reference assigns (proof: Proofs/JsonParserCompleteWs, -Num, -Str, JsonParserComplete — forward
    simulation by induction on the reference parser's recursion, for all inputs); soundness from `parse_sound_scalars` on -/
section ParserRefinement
open Model.JsonParser

/-- `Model.JsonParser.eventsOf` (Proofs/JsonParserNotions) under the name the statements here use -/
abbrev eventsOf : JT → List Ev := Model.JsonParser.eventsOf

/-- forgets the `noesc` tag of a string event (whether the source text of the string had no backslash): the reference's
    `JT.str` carries the decoded bytes only -/
abbrev eraseNoesc : Ev → Ev := Ev.eraseNoesc

/-- COMPLETENESS for whole documents, every option setting of the parser: if the RFC 8259 reference (no comments,
    no trailing commas, the parser's nesting limit) reads `bs` as the value `v`, then the parser model accepts `bs` and the events
    it reported, in order, are exactly the events of `v` — up to the `noesc` tag of string events, which `v` does not determine. -/
theorem parse_complete_any_options (cfg : Cfg) (bs : Bytes) (v : JT)
    (h : parseText { comments := false, trailingComma := false, maxDepth := cfg.maxDepth } bs = some v) :
    accepted (run cfg bs) = true ∧ (run cfg bs).evs.reverse.map eraseNoesc = eventsOf v :=
  run_complete cfg bs v h

/-- the same for the strict configuration (the reference flags are then exactly the parser's options) -/
theorem parse_complete (cfg : Cfg) (bs : Bytes) (v : JT)
    (h : parseText { comments := false, trailingComma := false, maxDepth := cfg.maxDepth } bs = some v)
    (_hc : cfg.comments = false) (_ht : cfg.trailingComma = false) :
    accepted (run cfg bs) = true ∧ (run cfg bs).evs.reverse.map eraseNoesc = eventsOf v :=
  parse_complete_any_options cfg bs v h

/-- consequence: an accepted text is never refused, whatever the error code -/
theorem parse_complete_no_error (cfg : Cfg) (bs : Bytes)
    (h : (parseText { comments := false, trailingComma := false, maxDepth := cfg.maxDepth } bs).isSome = true) :
    (run cfg bs).err = none := by
  obtain ⟨v, hv⟩ := Option.isSome_iff_exists.1 h
  have := (parse_complete_any_options cfg bs v hv).1
  simp only [accepted, Bool.and_eq_true, Option.isNone_iff_eq_none] at this
  exact this.1

-- non-vacuity: the hypothesis holds for the nested document {"a":[1,"x\n",null]} (the escape \n is the two bytes 92 110) …
example : (parseText { comments := false, trailingComma := false, maxDepth := 8 }
    [123, 34, 97, 34, 58, 91, 49, 44, 34, 120, 92, 110, 34, 44, 110, 117, 108, 108, 93, 125]).isSome = true := by decide +kernel
-- … and the conclusion, evaluated on the model for that document:
example : (run ⟨8, false, false⟩ [123, 34, 97, 34, 58, 91, 49, 44, 34, 120, 92, 110, 34, 44, 110, 117, 108, 108, 93, 125]).evs.reverse =
    [.beginObject, .key [97], .beginArray, .int [49], .str [120, 10] false, .null, .endArray, .endObject] := by decide +kernel
-- with white space (including a CR before the closing bracket and at the very end) and a fraction
example : (parseText { comments := false, trailingComma := false, maxDepth := 8 }
    [32, 91, 13, 49, 46, 53, 13, 93, 13]).isSome = true := by decide +kernel
example : (run ⟨8, false, false⟩ [32, 91, 13, 49, 46, 53, 13, 93, 13]).evs.reverse = [.beginArray, .frac [49, 46, 53], .endArray] := by decide +kernel

/-- SOUNDNESS, for documents whose root is a literal or a number (the first character after the leading white space is none of
    `"`, `[`, `{`), comments off: whatever the parser model accepts, the RFC 8259 reference reads as a value, and the events
    reported are the events of that value. (Needs only `comments = false`. For every root see `parse_sound` below.) -/
theorem parse_sound_scalars (cfg : Cfg) (bs : Bytes) (hc : cfg.comments = false)
    (hroot : ∀ c r, bs.dropWhile isWs = c :: r → c ≠ 34 ∧ c ≠ 91 ∧ c ≠ 123)
    (h : accepted (run cfg bs) = true) :
    ∃ v, parseText { comments := false, trailingComma := false, maxDepth := cfg.maxDepth } bs = some v ∧
      (run cfg bs).evs.reverse.map eraseNoesc = eventsOf v := by
  obtain ⟨v, hv⟩ := run_sound_scalar cfg hc bs hroot h
  exact ⟨v, hv, (run_complete cfg bs v hv).2⟩

/-- the two directions together on those documents -/
theorem parse_exact_scalars (cfg : Cfg) (bs : Bytes) (hc : cfg.comments = false)
    (hroot : ∀ c r, bs.dropWhile isWs = c :: r → c ≠ 34 ∧ c ≠ 91 ∧ c ≠ 123) :
    accepted (run cfg bs) = true ↔
      (parseText { comments := false, trailingComma := false, maxDepth := cfg.maxDepth } bs).isSome = true :=
  accepted_iff_isSome (run_sound_scalar cfg hc bs hroot) (fun v hv => (run_complete cfg bs v hv).1)

/-- SOUNDNESS also for a root string, provided the text contains no `\u` escape (no backslash followed by `u`): whatever the
    model accepts (comments off) among the documents whose root is a literal, a number or such a string, the reference reads as a
    value, with the reported events those of the value. (`parse_sound` below covers `\u` escapes too, under `NoSurrogateAnomaly`.) -/
theorem parse_sound_scalars_and_plain_strings (cfg : Cfg) (bs : Bytes) (hc : cfg.comments = false)
    (hroot : ∀ c r, bs.dropWhile isWs = c :: r → c ≠ 91 ∧ c ≠ 123)
    (hnu : ∀ pre post, bs ≠ pre ++ 92 :: 117 :: post)
    (h : accepted (run cfg bs) = true) :
    ∃ v, parseText { comments := false, trailingComma := false, maxDepth := cfg.maxDepth } bs = some v ∧
      (run cfg bs).evs.reverse.map eraseNoesc = eventsOf v := by
  obtain ⟨v, hv, hev⟩ := run_sound_tc_events cfg hc bs (sOK_of_noU bs hnu) h
  -- the root is no container, so the reference never consults its trailing-comma flag
  exact ⟨v, by rw [parseText_flags (strictFlags cfg) (tcFlags cfg) rfl rfl bs hroot]; exact hv, hev⟩

-- the model refuses what the grammar refuses: "01", "1.", "-", "tru", "nul l", "1 2"
example : accepted (run ⟨8, false, false⟩ [48, 49]) = false := by decide +kernel
example : accepted (run ⟨8, false, false⟩ [49, 46]) = false := by decide +kernel
example : accepted (run ⟨8, false, false⟩ [45]) = false := by decide +kernel
example : accepted (run ⟨8, false, false⟩ [116, 114, 117]) = false := by decide +kernel
example : accepted (run ⟨8, false, false⟩ [49, 32, 50]) = false := by decide +kernel
-- … and the two surrogate texts on which parser and reference differ (accepted / no value): "\udc00" and "\ud800\u0041"
example : accepted (run ⟨8, false, false⟩ [34, 92, 117, 100, 99, 48, 48, 34]) = true ∧
    (parseText { comments := false, trailingComma := false, maxDepth := 8 } [34, 92, 117, 100, 99, 48, 48, 34]).isSome = false := by decide +kernel
example : accepted (run ⟨8, false, false⟩ [34, 92, 117, 100, 56, 48, 48, 92, 117, 48, 48, 52, 49, 34]) = true ∧
    (parseText { comments := false, trailingComma := false, maxDepth := 8 } [34, 92, 117, 100, 56, 48, 48, 92, 117, 48, 48, 52, 49, 34]).isSome = false := by decide +kernel

/-! #### soundness for whole documents (proof: Proofs/JsonParserSoundCtx, -Str, JsonParserSound — the converse simulation, by
    induction on the length of the remaining input) -/

/-- `surrogateOK bs` (the scan: Proofs/JsonParserNotions). Its two anomalies are the ONLY two places where the parser (comments and
    trailing commas off) accepts a text the RFC 8259 reference gives no value (witnesses below): for a lone low surrogate escape the
    parser's `unicode_traits::convert` appends nothing and the string is accepted without it; a high surrogate escape and a
    following `\uXXXX` that is no low surrogate it combines arithmetically into some scalar value instead of refusing. -/
abbrev NoSurrogateAnomaly (bs : Bytes) : Prop := surrogateOK bs = true

/-- SOUNDNESS for whole documents: if the parser model with comments and trailing commas off accepts `bs` and `bs` has neither
    surrogate anomaly, then the RFC 8259 reference (same nesting limit) reads `bs` as a value `v`, and the events the parser
    reported are, in order, exactly the events of `v` (up to the `noesc` tag). -/
theorem parse_sound (cfg : Cfg) (bs : Bytes) (hc : cfg.comments = false) (ht : cfg.trailingComma = false)
    (hs : NoSurrogateAnomaly bs) (h : accepted (run cfg bs) = true) :
    ∃ v, parseText { comments := false, trailingComma := false, maxDepth := cfg.maxDepth } bs = some v ∧
      (run cfg bs).evs.reverse.map eraseNoesc = eventsOf v := by
  have := run_sound_tc_events cfg hc bs hs h
  rwa [tcFlags, ht] at this

/-- EXACTNESS: on texts without a surrogate anomaly the strict parser accepts exactly the texts of the RFC 8259 grammar (within
    the nesting limit) — soundness and completeness together, for all inputs -/
theorem parse_exact (cfg : Cfg) (bs : Bytes) (hc : cfg.comments = false) (ht : cfg.trailingComma = false)
    (hs : NoSurrogateAnomaly bs) :
    accepted (run cfg bs) = true ↔
      (parseText { comments := false, trailingComma := false, maxDepth := cfg.maxDepth } bs).isSome = true := by
  simpa only [tcFlags, ht] using run_exact_tc cfg hc bs hs

/-- … in particular every text the strict parser refuses with whatever error code has no value in the grammar, and vice versa -/
theorem parse_exact_reject (cfg : Cfg) (bs : Bytes) (hc : cfg.comments = false) (ht : cfg.trailingComma = false)
    (hs : NoSurrogateAnomaly bs) :
    accepted (run cfg bs) = false ↔
      parseText { comments := false, trailingComma := false, maxDepth := cfg.maxDepth } bs = none := by
  rw [← Bool.not_eq_true, parse_exact cfg bs hc ht hs, Option.not_isSome_iff_eq_none]

/-- the hypothesis `NoSurrogateAnomaly` is NECESSARY, i.e. it excludes nothing the grammar derives: every text the reference gives a
    value is anomaly-free (proof: Proofs/JsonParserSoundNec — the scan commutes with every production of the reference) -/
theorem value_implies_no_anomaly (maxDepth : Nat) (bs : Bytes) (v : JT)
    (h : parseText { comments := false, trailingComma := false, maxDepth := maxDepth } bs = some v) : NoSurrogateAnomaly bs :=
  parseText_sOK _ rfl bs v h

/-- CHARACTERISATION without side condition: the texts of the RFC 8259 grammar (within the nesting limit) are exactly the texts
    the strict parser accepts that have no surrogate anomaly — for every byte string -/
theorem grammar_iff_accepted_and_no_anomaly (cfg : Cfg) (bs : Bytes) (hc : cfg.comments = false) (ht : cfg.trailingComma = false) :
    (parseText { comments := false, trailingComma := false, maxDepth := cfg.maxDepth } bs).isSome = true ↔
      (accepted (run cfg bs) = true ∧ NoSurrogateAnomaly bs) := by
  constructor
  · intro h
    obtain ⟨v, hv⟩ := Option.isSome_iff_exists.1 h
    exact ⟨(run_complete cfg bs v hv).1, parseText_sOK _ rfl bs v hv⟩
  · rintro ⟨h, hs⟩
    exact (parse_exact cfg bs hc ht hs).1 h

/-- … so the strict parser and the reference DISAGREE on a text exactly when the parser accepts it and it has a surrogate anomaly:
    the two anomalies are the only divergence, and every anomalous text the parser accepts is a divergence -/
theorem disagreement_iff_anomaly (cfg : Cfg) (bs : Bytes) (hc : cfg.comments = false) (ht : cfg.trailingComma = false) :
    (accepted (run cfg bs) = true ∧ parseText { comments := false, trailingComma := false, maxDepth := cfg.maxDepth } bs = none) ↔
      (accepted (run cfg bs) = true ∧ ¬ NoSurrogateAnomaly bs) := by
  refine and_congr_right fun ha => ?_
  rw [← Option.not_isSome_iff_eq_none, grammar_iff_accepted_and_no_anomaly cfg bs hc ht]
  exact ⟨fun h hs => h ⟨ha, hs⟩, fun h hh => h hh.2⟩

/-- a text in which no backslash is followed by `u` has no surrogate anomaly (so `parse_sound` covers every document whose
    strings use only plain characters, raw UTF-8 and the eight two-character escapes) -/
theorem no_backslash_u_no_anomaly (bs : Bytes) (h : ∀ pre post, bs ≠ pre ++ 92 :: 117 :: post) : NoSurrogateAnomaly bs :=
  sOK_of_noU bs h

-- non-vacuity: {"k\n":[1e3,<CR>"\ud83d\ude00",{}]}<LF> — the hypotheses, and both sides of the conclusion, evaluated
example : NoSurrogateAnomaly [123, 34, 107, 92, 110, 34, 58, 91, 49, 101, 51, 44, 13, 34, 92, 117, 100, 56, 51, 100, 92, 117, 100, 101, 48, 48, 34, 44, 123, 125, 93,
    125, 10] := by decide +kernel
example : accepted (run ⟨8, false, false⟩ [123, 34, 107, 92, 110, 34, 58, 91, 49, 101, 51, 44, 13, 34, 92, 117, 100, 56, 51, 100, 92, 117, 100, 101, 48, 48, 34, 44, 123, 125, 93,
    125, 10]) = true := by decide +kernel
example : (parseText { comments := false, trailingComma := false, maxDepth := 8 } [123, 34, 107, 92, 110, 34, 58, 91, 49, 101, 51, 44, 13, 34, 92, 117, 100, 56, 51, 100, 92, 117, 100, 101, 48, 48, 34, 44, 123, 125, 93,
    125, 10]).isSome = true := by decide +kernel
example : (run ⟨8, false, false⟩ [123, 34, 107, 92, 110, 34, 58, 91, 49, 101, 51, 44, 13, 34, 92, 117, 100, 56, 51, 100, 92, 117, 100, 101, 48, 48, 34, 44, 123, 125, 93,
    125, 10]).evs.reverse =
    [.beginObject, .key [107, 10], .beginArray, .frac [49, 101, 51], .str [240, 159, 152, 128] false, .beginObject, .endObject, .endArray,
     .endObject] := by decide +kernel
-- the predicate is false on exactly the anomalous texts: "\udc00", "\ud800\u0041", and "\\ud83d\ude00" (an escaped backslash, the
-- letters ud83d, then a lone low surrogate) — and true on the pair "\ud83d\ude00" and on "\\udc00" (escaped backslash + letters)
example : ¬ NoSurrogateAnomaly [34, 92, 117, 100, 99, 48, 48, 34] := by decide +kernel
example : ¬ NoSurrogateAnomaly [34, 92, 117, 100, 56, 48, 48, 92, 117, 48, 48, 52, 49, 34] := by decide +kernel
example : ¬ NoSurrogateAnomaly [34, 92, 92, 117, 100, 56, 51, 100, 92, 117, 100, 101, 48, 48, 34] := by decide +kernel
example : accepted (run ⟨8, false, false⟩ [34, 92, 92, 117, 100, 56, 51, 100, 92, 117, 100, 101, 48, 48, 34]) = true ∧
    (parseText { comments := false, trailingComma := false, maxDepth := 8 } [34, 92, 92, 117, 100, 56, 51, 100, 92, 117, 100, 101, 48, 48, 34]).isSome = false := by
  decide +kernel
example : NoSurrogateAnomaly [34, 92, 117, 100, 56, 51, 100, 92, 117, 100, 101, 48, 48, 34] := by decide +kernel
example : NoSurrogateAnomaly [34, 92, 92, 117, 100, 99, 48, 48, 34] := by decide +kernel
-- both hypotheses on the options are needed: with trailing commas on the parser accepts [1,], with comments on [1/**/]
example : accepted (run ⟨8, false, true⟩ [91, 49, 44, 93]) = true ∧
    (parseText { comments := false, trailingComma := false, maxDepth := 8 } [91, 49, 44, 93]).isSome = false := by decide +kernel
example : accepted (run ⟨8, true, false⟩ [91, 49, 47, 42, 42, 47, 93]) = true ∧
    (parseText { comments := false, trailingComma := false, maxDepth := 8 } [91, 49, 47, 42, 42, 47, 93]).isSome = false := by decide +kernel
end ParserRefinement

/-! ### the options: `allow_trailing_comma` and `allow_comments` relax exactly those two constructs (proofs: the simulations of
    Proofs/JsonParserComplete and Proofs/JsonParserSound are carried out for the reference WITH the trailing-comma production
    whenever the parser has the option; Proofs/JsonParserComments for comments) -/
section ParserOptions
open Model.JsonParser

/-- COMPLETENESS with `allow_trailing_comma`: whatever the reference with the trailing-comma production (no comments; the parser's
    nesting limit) reads as a value, the parser with the option on accepts, reporting the events of that value -/
theorem parse_complete_trailing_comma (cfg : Cfg) (bs : Bytes) (v : JT) (ht : cfg.trailingComma = true)
    (h : parseText { comments := false, trailingComma := true, maxDepth := cfg.maxDepth } bs = some v) :
    accepted (run cfg bs) = true ∧ (run cfg bs).evs.reverse.map eraseNoesc = eventsOf v :=
  run_complete_tc cfg bs v (by simpa only [tcFlags, ht] using h)

/-- SOUNDNESS with `allow_trailing_comma` (comments off): whatever the parser accepts on a text without a surrogate anomaly, the
    reference with the trailing-comma production reads as a value, and the events are those of the value. So the option allows
    NOTHING but a comma before the closing bracket of a non-empty container (`[,]`, `[1,,]`, `{,}` stay errors). -/
theorem parse_sound_trailing_comma (cfg : Cfg) (bs : Bytes) (hc : cfg.comments = false) (ht : cfg.trailingComma = true)
    (hs : NoSurrogateAnomaly bs) (h : accepted (run cfg bs) = true) :
    ∃ v, parseText { comments := false, trailingComma := true, maxDepth := cfg.maxDepth } bs = some v ∧
      (run cfg bs).evs.reverse.map eraseNoesc = eventsOf v := by
  have := run_sound_tc_events cfg hc bs hs h
  rwa [tcFlags, ht] at this

/-- EXACTNESS with `allow_trailing_comma`: on texts without a surrogate anomaly the parser with trailing commas on (comments off)
    accepts exactly the texts of the grammar extended by the one trailing-comma production -/
theorem parse_exact_trailing_comma (cfg : Cfg) (bs : Bytes) (hc : cfg.comments = false) (ht : cfg.trailingComma = true)
    (hs : NoSurrogateAnomaly bs) :
    accepted (run cfg bs) = true ↔
      (parseText { comments := false, trailingComma := true, maxDepth := cfg.maxDepth } bs).isSome = true := by
  simpa only [tcFlags, ht] using run_exact_tc cfg hc bs hs

/-- both settings of the option at once: with comments off, the parser accepts exactly what the reference with THE SAME
    trailing-comma flag derives (on anomaly-free texts); the events are then those of the value (`parse_sound`,
    `parse_sound_trailing_comma`) -/
theorem parse_exact_any_trailing_comma (cfg : Cfg) (bs : Bytes) (hc : cfg.comments = false) (hs : NoSurrogateAnomaly bs) :
    accepted (run cfg bs) = true ↔
      (parseText { comments := false, trailingComma := cfg.trailingComma, maxDepth := cfg.maxDepth } bs).isSome = true :=
  run_exact_tc cfg hc bs hs

-- non-vacuity: [1,] and {"a":1,} and [[1 , ] ,\r] — accepted by both with the option on, by neither with it off; the events
example : accepted (run ⟨8, false, true⟩ [91, 49, 44, 93]) = true ∧
    (parseText { comments := false, trailingComma := true, maxDepth := 8 } [91, 49, 44, 93]).isSome = true := by decide +kernel
example : (run ⟨8, false, true⟩ [91, 49, 44, 93]).evs.reverse = [.beginArray, .int [49], .endArray] := by decide +kernel
example : accepted (run ⟨8, false, true⟩ [123, 34, 97, 34, 58, 49, 44, 125]) = true ∧
    (parseText { comments := false, trailingComma := true, maxDepth := 8 } [123, 34, 97, 34, 58, 49, 44, 125]).isSome = true := by decide +kernel
example : (run ⟨8, false, true⟩ [123, 34, 97, 34, 58, 49, 44, 125]).evs.reverse =
    [.beginObject, .key [97], .int [49], .endObject] := by decide +kernel
example : accepted (run ⟨8, false, true⟩ [91, 91, 49, 32, 44, 32, 93, 32, 44, 13, 93]) = true ∧
    (parseText { comments := false, trailingComma := true, maxDepth := 8 } [91, 91, 49, 32, 44, 32, 93, 32, 44, 13, 93]).isSome = true := by
  decide +kernel
example : NoSurrogateAnomaly [123, 34, 97, 34, 58, 49, 44, 125] := by decide +kernel
example : accepted (run ⟨8, false, false⟩ [123, 34, 97, 34, 58, 49, 44, 125]) = false ∧
    (parseText { comments := false, trailingComma := false, maxDepth := 8 } [123, 34, 97, 34, 58, 49, 44, 125]).isSome = false := by decide +kernel
-- the option relaxes nothing else: [,] [1,,] {,} {"a":1,,} stay refused by both
example : accepted (run ⟨8, false, true⟩ [91, 44, 93]) = false ∧
    (parseText { comments := false, trailingComma := true, maxDepth := 8 } [91, 44, 93]).isSome = false := by decide +kernel
example : accepted (run ⟨8, false, true⟩ [91, 49, 44, 44, 93]) = false ∧
    (parseText { comments := false, trailingComma := true, maxDepth := 8 } [91, 49, 44, 44, 93]).isSome = false := by decide +kernel
example : accepted (run ⟨8, false, true⟩ [123, 44, 125]) = false ∧
    (parseText { comments := false, trailingComma := true, maxDepth := 8 } [123, 44, 125]).isSome = false := by decide +kernel
example : accepted (run ⟨8, false, true⟩ [123, 34, 97, 34, 58, 49, 44, 44, 125]) = false ∧
    (parseText { comments := false, trailingComma := true, maxDepth := 8 } [123, 34, 97, 34, 58, 49, 44, 44, 125]).isSome = false := by decide +kernel

/-! #### `allow_comments` -/

/-- `Model.JsonParser.parseTextPlainTail` (Proofs/JsonParserNotions): comments are read before and inside the value only, so a
    comment after the root value is an error even with `allow_comments` (D22 — witnesses below) -/
abbrev parseTextPlainTail (fl : Flags) (bs : Bytes) : Option JT := Model.JsonParser.parseTextPlainTail fl bs

/-- decidable: the reference's final `ws` consumed plain white space only (vacuously true when the reference reads no value) -/
abbrev NoCommentAfterValue (fl : Flags) (bs : Bytes) : Prop := plainTail fl bs = true

/-- `parseTextPlainTail` is exactly `parseText` on the texts without a comment after the value … -/
theorem plain_tail_iff (fl : Flags) (bs : Bytes) (v : JT) :
    parseTextPlainTail fl bs = some v ↔ (parseText fl bs = some v ∧ NoCommentAfterValue fl bs) :=
  parseTextPlainTail_some fl bs v

/-- … and is `parseText` itself when comments are off -/
theorem plain_tail_without_comments (fl : Flags) (hc : fl.comments = false) (bs : Bytes) :
    parseTextPlainTail fl bs = parseText fl bs :=
  parseTextPlainTail_nc fl hc bs

/-- COMPLETENESS for EVERY option setting, against the reference with exactly the parser's options (comments, trailing commas,
    nesting limit): if the reference reads `bs` as the value `v` and no comment follows the value, the parser accepts `bs` and
    reports exactly the events of `v`; comments report nothing. (Proof: Proofs/JsonParserComments.) -/
theorem parse_complete_options (cfg : Cfg) (bs : Bytes) (v : JT)
    (h : parseText { comments := cfg.comments, trailingComma := cfg.trailingComma, maxDepth := cfg.maxDepth } bs = some v)
    (hp : NoCommentAfterValue { comments := cfg.comments, trailingComma := cfg.trailingComma, maxDepth := cfg.maxDepth } bs) :
    accepted (run cfg bs) = true ∧ (run cfg bs).evs.reverse.map eraseNoesc = eventsOf v :=
  run_complete_opt cfg bs v ((parseTextPlainTail_some _ bs v).2 ⟨h, hp⟩)

/-- the comment-enabled configurations in particular -/
theorem parse_complete_comments (cfg : Cfg) (bs : Bytes) (v : JT) (hc : cfg.comments = true)
    (h : parseTextPlainTail { comments := true, trailingComma := cfg.trailingComma, maxDepth := cfg.maxDepth } bs = some v) :
    accepted (run cfg bs) = true ∧ (run cfg bs).evs.reverse.map eraseNoesc = eventsOf v :=
  run_complete_opt cfg bs v (by simpa only [optFlags, hc] using h)

/-- the options only RELAX: a text without surrogate anomaly that the strict parser accepts is accepted under every other option
    setting (same nesting limit), with the same events -/
theorem options_only_relax (cfg cfg' : Cfg) (bs : Bytes) (hc : cfg.comments = false) (ht : cfg.trailingComma = false)
    (hd : cfg'.maxDepth = cfg.maxDepth) (hs : NoSurrogateAnomaly bs) (h : accepted (run cfg bs) = true) :
    accepted (run cfg' bs) = true ∧
      (run cfg' bs).evs.reverse.map eraseNoesc = (run cfg bs).evs.reverse.map eraseNoesc := by
  obtain ⟨v, hv, hev⟩ := parse_sound cfg bs hc ht hs h
  have := run_complete cfg' bs v (by rw [show strictFlags cfg' = strictFlags cfg from (by simp [hd])]; exact hv)
  exact ⟨this.1, this.2.trans hev.symm⟩

-- non-vacuity: [1/*c*/,2] and [1,//x<LF>2] and [/*<CR>**/1<CR>] and, with both options, {"a"/**/:/**/1,/**/} <LF>
example : (parseTextPlainTail { comments := true, trailingComma := false, maxDepth := 8 } [91, 49, 47, 42, 99, 42, 47, 44, 50, 93]).isSome = true := by
  decide +kernel
example : accepted (run ⟨8, true, false⟩ [91, 49, 47, 42, 99, 42, 47, 44, 50, 93]) = true ∧
    (run ⟨8, true, false⟩ [91, 49, 47, 42, 99, 42, 47, 44, 50, 93]).evs.reverse = [.beginArray, .int [49], .int [50], .endArray] := by decide +kernel
example : (parseTextPlainTail { comments := true, trailingComma := false, maxDepth := 8 } [91, 49, 44, 47, 47, 120, 10, 50, 93]).isSome = true ∧
    accepted (run ⟨8, true, false⟩ [91, 49, 44, 47, 47, 120, 10, 50, 93]) = true := by decide +kernel
example : (parseTextPlainTail { comments := true, trailingComma := false, maxDepth := 8 } [91, 47, 42, 13, 42, 42, 47, 49, 13, 93]).isSome = true ∧
    accepted (run ⟨8, true, false⟩ [91, 47, 42, 13, 42, 42, 47, 49, 13, 93]) = true := by decide +kernel
example : (parseTextPlainTail { comments := true, trailingComma := true, maxDepth := 8 }
      [123, 34, 97, 34, 47, 42, 42, 47, 58, 47, 42, 42, 47, 49, 44, 47, 42, 42, 47, 125, 32, 10]).isSome = true ∧
    accepted (run ⟨8, true, true⟩ [123, 34, 97, 34, 47, 42, 42, 47, 58, 47, 42, 42, 47, 49, 44, 47, 42, 42, 47, 125, 32, 10]) = true := by decide +kernel
-- D22 (recorded divergence): a comment AFTER the root value — [1/*c*/,2]//x and 1/**/ — the reference's final `ws` takes it, the
-- parser's `check_done` refuses it with extra_character; `NoCommentAfterValue` is false on exactly these
example : (parseText { comments := true, trailingComma := false, maxDepth := 8 } [91, 49, 47, 42, 99, 42, 47, 44, 50, 93, 47, 47, 120]).isSome = true ∧
    (run ⟨8, true, false⟩ [91, 49, 47, 42, 99, 42, 47, 44, 50, 93, 47, 47, 120]).err = some eExtraCharacter ∧
    ¬ NoCommentAfterValue { comments := true, trailingComma := false, maxDepth := 8 } [91, 49, 47, 42, 99, 42, 47, 44, 50, 93, 47, 47, 120] := by
  decide +kernel
example : (parseText { comments := true, trailingComma := false, maxDepth := 8 } [49, 47, 42, 42, 47]).isSome = true ∧
    (run ⟨8, true, false⟩ [49, 47, 42, 42, 47]).err = some eExtraCharacter := by decide +kernel
-- both refuse: an unterminated block comment [1/* (unexpected_eof), a lone slash [1/ ] (syntax_error), a line comment that runs to
-- the end of the input [1//x (unexpected_eof), /*/ (the `*` cannot serve twice); with comments off a comment is illegal_comment
example : (run ⟨8, true, false⟩ [91, 49, 47, 42]).err = some eUnexpectedEof ∧
    parseText { comments := true, trailingComma := false, maxDepth := 8 } [91, 49, 47, 42] = none := by decide +kernel
example : (run ⟨8, true, false⟩ [91, 49, 47, 32, 93]).err = some eSyntax ∧
    parseText { comments := true, trailingComma := false, maxDepth := 8 } [91, 49, 47, 32, 93] = none := by decide +kernel
example : (run ⟨8, true, false⟩ [91, 49, 47, 47, 120]).err = some eUnexpectedEof ∧
    parseText { comments := true, trailingComma := false, maxDepth := 8 } [91, 49, 47, 47, 120] = none := by decide +kernel
example : (run ⟨8, true, false⟩ [47, 42, 47, 49]).err = some eUnexpectedEof ∧
    parseText { comments := true, trailingComma := false, maxDepth := 8 } [47, 42, 47, 49] = none := by decide +kernel
example : (run ⟨8, false, false⟩ [91, 49, 47, 42, 42, 47, 93]).err = some eIllegalComment ∧
    parseText { comments := false, trailingComma := false, maxDepth := 8 } [91, 49, 47, 42, 42, 47, 93] = none := by decide +kernel

/-- `allow_comments` relaxes NOTHING on a text without the byte `/`: the whole outcome of the parser (final state, events, error
    code) is the same with the option on and off (the `slash` state, the only cell that consults the option, is entered by a `/`
    only — Proofs/JsonParserInvariants) -/
theorem comments_option_irrelevant_without_slash (cfg : Cfg) (b : Bool) (bs : Bytes) (h : ∀ x ∈ bs, x ≠ 47) :
    run { cfg with comments := b } bs = run cfg bs :=
  run_comments_slash_free cfg b bs h

/-- EXACTNESS for EVERY option setting on `/`-free texts without surrogate anomaly: whatever `allow_comments` is, the parser
    accepts exactly what the reference without comments and with the parser's trailing-comma flag derives -/
theorem options_relax_exactly_slash_free (cfg : Cfg) (bs : Bytes) (h47 : ∀ x ∈ bs, x ≠ 47) (hs : NoSurrogateAnomaly bs) :
    accepted (run cfg bs) = true ↔
      (parseText { comments := false, trailingComma := cfg.trailingComma, maxDepth := cfg.maxDepth } bs).isSome = true := by
  rw [← run_comments_slash_free cfg false bs h47]
  exact parse_exact_any_trailing_comma { cfg with comments := false } bs rfl hs

example : (run ⟨8, true, true⟩ [91, 49, 44, 93]).evs = (run ⟨8, false, true⟩ [91, 49, 44, 93]).evs := by decide +kernel

/-! #### soundness with `allow_comments` ON: the space-skipping states in general, whole documents with a scalar root -/

/-- the leading `ws` WITH COMMENTS of an accepted text (comments on): the reference's `skipWs` is defined on it (no unterminated
    block comment) and what it leaves begins with a character that is neither white space nor `/`. Instance at the root of the general
    lemma `acc_skip` (Proofs/JsonParserComments), which holds in all seven space-skipping states in any nesting context. -/
theorem accepted_leading_ws_comments (cfg : Cfg) (bs : Bytes) (hc : cfg.comments = true) (h : accepted (run cfg bs) = true) :
    ∃ c r, skipWs true (bs.length + 1) bs = some (c :: r) ∧ isWs c = false ∧ c ≠ 47 ∧
      accepted (finish (feed cfg init (c :: r))) = true := by
  obtain ⟨w, hw, hA, _, hhd⟩ := acc_skip cfg hc init rfl (bs.length + 1) bs (Nat.lt_succ_self _) h
  cases w with
  | nil => exact absurd hA (ws_not_eof cfg init rfl)
  | cons c r => exact ⟨c, r, hw, (hhd c r rfl).1, (hhd c r rfl).2, hA⟩

/-- decidable: after the leading `ws` with comments the text does not begin a string, an array or an object -/
def scalarRoot (bs : Bytes) : Bool :=
  match skipWs true (bs.length + 1) bs with
  | some (c :: _) => c != 34 && c != 91 && c != 123
  | _ => true

/-- SOUNDNESS with `allow_comments` ON for the documents whose root is a literal or a number (whatever `allow_trailing_comma`):
    if the parser accepts, the reference WITH the comment production reads the text as a value `v`, no comment follows the value,
    and the events reported are exactly those of `v`. (No hypothesis on surrogates: these roots contain no string.) -/
theorem parse_sound_comments_scalars (cfg : Cfg) (bs : Bytes) (hc : cfg.comments = true) (hroot : scalarRoot bs = true)
    (h : accepted (run cfg bs) = true) :
    ∃ v, parseText { comments := true, trailingComma := cfg.trailingComma, maxDepth := cfg.maxDepth } bs = some v ∧
      NoCommentAfterValue { comments := true, trailingComma := cfg.trailingComma, maxDepth := cfg.maxDepth } bs ∧
      (run cfg bs).evs.reverse.map eraseNoesc = eventsOf v := by
  obtain ⟨c, cs, hw, hws, h47, hA⟩ := accepted_leading_ws_comments cfg bs hc h
  have hr : (c ≠ 34 ∧ c ≠ 91) ∧ c ≠ 123 := by simpa [scalarRoot, hw] using hroot
  rcases value_head_of_ne_slash cfg init rfl c cs hws h47 (by simp [parent, init]) hA with e | e | e | hsc
  · exact absurd e hr.2
  · exact absurd e hr.1.2
  · exact absurd e hr.1.1
  · -- the literal or number, then plain white space to the end
    obtain ⟨v, _, r, s1, _, _, _, _, hpv, R1, h1, _, _⟩ := scalar_inv cfg Ctx.root init rfl rfl rfl c cs hsc hA
    have hr := (Acc.of_reach hA R1).tail_ws (Or.inl h1)
    have hv : Model.JsonParser.parseTextPlainTail (optFlags cfg) bs = some v := by
      unfold Model.JsonParser.parseTextPlainTail
      simp only [hc, hw, hpv, hr, if_true]
    have hev := (run_complete_opt cfg bs v hv).2
    rw [optFlags, hc] at hv
    obtain ⟨h1, h2⟩ := (parseTextPlainTail_some _ bs v).1 hv
    exact ⟨v, h1, h2, hev⟩

/-- EXACTNESS with `allow_comments` ON on those documents: the parser accepts exactly the texts the grammar with the comment
    production derives with no comment after the value (D22) -/
theorem parse_exact_comments_scalars (cfg : Cfg) (bs : Bytes) (hc : cfg.comments = true) (hroot : scalarRoot bs = true) :
    accepted (run cfg bs) = true ↔
      (parseTextPlainTail { comments := true, trailingComma := cfg.trailingComma, maxDepth := cfg.maxDepth } bs).isSome = true :=
  accepted_iff_isSome
    (fun h => by
      obtain ⟨v, h1, h2, _⟩ := parse_sound_comments_scalars cfg bs hc hroot h
      exact ⟨v, (parseTextPlainTail_some _ bs v).2 ⟨h1, h2⟩⟩)
    (fun v hv => (parse_complete_comments cfg bs v hc hv).1)

-- /*x*/ //y<LF> -1.5e3 <CR>  and  /**/tru  and  1/2  and  /*1
example : scalarRoot [47, 42, 120, 42, 47, 32, 47, 47, 121, 10, 45, 49, 46, 53, 101, 51, 32, 13] = true ∧
    accepted (run ⟨8, true, false⟩ [47, 42, 120, 42, 47, 32, 47, 47, 121, 10, 45, 49, 46, 53, 101, 51, 32, 13]) = true ∧
    (parseText { comments := true, trailingComma := false, maxDepth := 8 }
      [47, 42, 120, 42, 47, 32, 47, 47, 121, 10, 45, 49, 46, 53, 101, 51, 32, 13]).isSome = true := by decide +kernel
example : scalarRoot [47, 42, 42, 47, 116, 114, 117] = true ∧ accepted (run ⟨8, true, false⟩ [47, 42, 42, 47, 116, 114, 117]) = false ∧
    (parseText { comments := true, trailingComma := false, maxDepth := 8 } [47, 42, 42, 47, 116, 114, 117]).isSome = false := by decide +kernel
example : scalarRoot [47, 42, 49] = true ∧ accepted (run ⟨8, true, false⟩ [47, 42, 49]) = false ∧
    (parseText { comments := true, trailingComma := false, maxDepth := 8 } [47, 42, 49]).isSome = false := by decide +kernel

end ParserOptions

/-! ### the option flags relax exactly one construct each (kernel-evaluated instances, all four flag pairs) -/
def fl (c t : Bool) : Flags := { comments := c, trailingComma := t, maxDepth := 1024 }
def txt (s : String) : Bytes := s.toUTF8.toList.map (·.toNat)

example : (parseText (fl false false) [91, 49, 44, 93]).isSome = false := by decide +kernel             -- [1,]
example : (parseText (fl true false) [91, 49, 44, 93]).isSome = false := by decide +kernel
example : (parseText (fl false true) [91, 49, 44, 93]).isSome = true := by decide +kernel
example : (parseText (fl false true) [91, 44, 93]).isSome = false := by decide +kernel                  -- [,]
example : (parseText (fl true false) [91, 49, 47, 42, 42, 47, 93]).isSome = true := by decide +kernel    -- [1/**/]
example : (parseText (fl false false) [91, 49, 47, 42, 42, 47, 93]).isSome = false := by decide +kernel
example : (parseText (fl true false) [123, 34, 97, 34, 58, 49, 44, 47, 42, 99, 42, 47, 125]).isSome = false := by decide +kernel  -- {"a":1,/*c*/}
example : (parseText (fl true true) [123, 34, 97, 34, 58, 49, 44, 47, 42, 99, 42, 47, 125]).isSome = true := by decide +kernel
-- nesting limit: depth 2 accepted at limit 2, depth 3 rejected
example : (parseText { comments := false, trailingComma := false, maxDepth := 2 } [91, 91, 93, 93]).isSome = true := by decide +kernel
example : (parseText { comments := false, trailingComma := false, maxDepth := 2 } [91, 91, 91, 93, 93, 93]).isSome = false := by decide +kernel
-- escapes: a surrogate pair denotes one scalar, a lone surrogate none
example : parseString [34, 92, 117, 100, 56, 51, 100, 92, 117, 100, 101, 48, 48, 34] = some ([240, 159, 152, 128], []) := by decide +kernel
example : parseString [34, 92, 117, 100, 56, 51, 100, 34] = none := by decide +kernel

end JV.Props.C02
