/-
  C09 — `basic_json` behaves as a value-semantic JSON container.

  The model (`JV.Model.Dom`) is the mathematical object the property names: a pool of values, arrays as sequences and
  objects as finite maps held as key-ordered (`json`) association lists. The correspondence check runs the same
  operation sequences through the real `basic_json` and through `Model.Dom.run`, comparing every observable result
  and every slot of the pool at the end — so what is proved here about the model is what the implementation was
  observed to do on each compared sequence.

  Theorems, for every pool, object, key and value:
    * copies are independent: an operation addressed to slot `a` never changes another slot (`step_frame`), so after
      `copy a b` followed by any mutation of `a`, `b` still holds what it held (`copy_then_mutate_independent`);
    * swap exchanges and self-assignment is the identity (`swap_exchanges`, `selfAssign_identity`);
    * the object operations are the finite-map operations and keep "sorted, unique keys" (`insert_or_assign_is_map_update`,
      `try_emplace_is_insert_if_absent`, `erase_is_map_remove`, `merge_keeps_existing_members`, `merge_keeps_invariant`);
    * the integer comparison arms (int64/uint64 in all four combinations, with the C++ unsigned conversions written out)
      are the order of the stored numbers, hence reflexive, antisymmetric, transitive and consistent with equality
      (`int_compare_is_order` and corollaries).
    * the WHOLE of `basic_json::compare` (`JV.Model.Compare.compare` on `CVal`: every storage kind the switch has an arm for — null,
      bool, int64, uint64, `json()` empty_object, float64 and half_float as IEEE-754 bit patterns, short/long strings, byte strings,
      arrays, sorted objects — with the exact arm order, the kind-index fall-through defaults, `static_cast<double>(integer)` rounding
      written out on the bits, the double arms (`a == b ? 0 : (a < b ? -1 : 1)`; `r = a - b; r == 0 ? 0 : (r < 0.0 ? -1 : 1)` where one side
      is a converted integer) with their answer 1 for a NaN operand, and the vector
      `==` / lexicographic `<` of arrays and objects; outside the model: number-tagged strings (finding D7, compared through
      `as_double()` of their text), `json_ref` storage and the `this == &rhs` shortcut) is tied to the real `compare()` and the six
      operators by the stream "compare-model" (`dom mcmp`, all ordered pairs of a 165-value boundary alphabet + generated nestings), and:
        - `compare_refl`, `compare_antisymm`: for values without NaN and without infinity (`finite`), `compare a a = 0` and
          `compare b a = - compare a b`; both fail with NaN (`nan_compares_greater_both_ways`); equal infinities compare equal
          (`inf_equals_itself`), but `finite` leaves infinities out, so the two theorems say nothing about them;
        - `eq_is_equivalence_partial`, `lt_is_strict_weak_order_partial`: on `dom L` — no NaN / infinity, no `json()` empty_object,
          stored integers within ±2^53, strings all short (≤ 13 bytes, L = false) or all long (L = true) — `==` is reflexive, symmetric
          and transitive, `<` is irreflexive and transitive, incomparability is `==` and is transitive, and `==` is a congruence
          for `<` (`compare_le_trans` is the one fact behind them: `compare a b ≤ 0` is transitive; containers by lifting through
          `vecCmp_le_trans`);
        - the full statements are FALSE of the code, each shown by a closed counterexample (reproduced on the real code by the
          op lines in the comments): `eq_not_transitive_beyond_2_53` (integers beyond 2^53 meet a double),
          `lt_cycle_through_empty_object` (`json()` has kind index 4, between uint64 = 3 and float64 = 5),
          `eq_not_congruent_empty_object` (`json() == json(json_object_arg)` but they order differently against every kind 5..12),
          `lt_cycle_short_long_strings` (short_str = 7 < byte_str, object, array = 12..14 < long_str = 15, while two strings compare
          as text), `lt_cycle_arrays_beyond_2_53`.
-/
import JV.Proofs.Dom
import JV.Proofs.CompareOrder
namespace JV
namespace Props
namespace C09
open Model Model.Dom Assoc

/-! ### copies are independent values -/

/-- which slot an operation may write -/
def target : Op → List Nat
  | .new s _ => [s]
  | .copy a _ => [a]
  | .swap a b => [a, b]
  | .selfAssign _ => []
  | .set a _ _ => [a] | .emplace a _ _ => [a] | .erase a _ => [a]
  | .find _ _ => [] | .contains _ _ => [] | .count _ _ => [] | .at _ _ => [] | .size _ => [] | .isEmpty _ => []
  | .clear a => [a] | .push a _ => [a] | .insAt a _ _ => [a] | .eraseAt a _ => [a] | .eraseRange a _ _ => [a]
  | .resize a _ => [a] | .resizeV a _ _ => [a] | .atIdx _ _ => []
  | .merge a _ => [a] | .mergeUpd a _ => [a] | .rangeIns a _ => [a] | .iter _ => []

theorem getSlot_setSlot_ne (pool : List JVal) {i j : Nat} (v : JVal) (h : j ≠ i) :
    getSlot (setSlot pool i v) j = getSlot pool j := by
  simp [getSlot, setSlot, List.getD, List.getElem?_set_ne (Ne.symm h)]

/-- frame rule: a slot that is not the operation's target holds the same value afterwards — there is no aliasing
    between slots, in particular none between a value and its copy. -/
theorem step_frame (ordered : Bool) (pool : List JVal) (op : Op) (j : Nat) (hj : j ∉ target op) :
    getSlot (step ordered pool op).2 j = getSlot pool j := by
  cases op <;> simp only [target, List.mem_cons, List.not_mem_nil, or_false, not_or, not_false_eq_true] at hj <;>
    simp only [step] <;> (try rfl)
  case new s v => exact getSlot_setSlot_ne _ _ hj
  case copy a b => exact getSlot_setSlot_ne _ _ hj
  case swap a b => rw [getSlot_setSlot_ne _ _ hj.2, getSlot_setSlot_ne _ _ hj.1]
  -- every other operation matches on what slot `a` holds (and some on a range test): each branch leaves the pool or sets slot `a`
  all_goals (repeat' split) <;> first | rfl | exact getSlot_setSlot_ne _ _ hj

theorem getSlot_setSlot_self (pool : List JVal) {i : Nat} (v : JVal) (h : i < pool.length) :
    getSlot (setSlot pool i v) i = v := by
  simp [getSlot, setSlot, List.getD, h]

/-- after `a = b` (copy construction / assignment / move from a temporary copy), `a` holds b's value … -/
theorem copy_takes_value (ordered : Bool) (pool : List JVal) (a b : Nat) (ha : a < pool.length) :
    getSlot (step ordered pool (.copy a b)).2 a = getSlot pool b := by
  simp only [step]; exact getSlot_setSlot_self _ _ ha

/-- … and any later operation on `a` leaves `b` exactly as it was: the copy shares nothing with its source. -/
theorem copy_then_mutate_independent (ordered : Bool) (pool : List JVal) (a b : Nat) (op : Op) (hab : b ≠ a)
    (hop : target op = [a]) :
    getSlot (step ordered (step ordered pool (.copy a b)).2 op).2 b = getSlot pool b := by
  rw [step_frame ordered _ op b (by rw [hop]; simpa using hab)]
  exact step_frame ordered pool (.copy a b) b (by simpa [target] using hab)

theorem swap_exchanges (ordered : Bool) (pool : List JVal) (a b : Nat) (ha : a < pool.length) (hb : b < pool.length) :
    getSlot (step ordered pool (.swap a b)).2 a = getSlot pool b ∧ getSlot (step ordered pool (.swap a b)).2 b = getSlot pool a := by
  simp only [step]
  constructor
  · by_cases e : a = b
    · subst e; rw [getSlot_setSlot_self _ _ (by simpa [setSlot] using ha)]
    · rw [getSlot_setSlot_ne _ _ e, getSlot_setSlot_self _ _ ha]
  · exact getSlot_setSlot_self _ _ (by simpa [setSlot] using hb)

theorem selfAssign_identity (ordered : Bool) (pool : List JVal) (a : Nat) : (step ordered pool (.selfAssign a)).2 = pool := rfl

/-! ### objects are finite maps with sorted unique keys -/

theorem insert_or_assign_is_map_update (k : Bytes) (v : JVal) (ms : List (Bytes × JVal)) (hs : Sorted ms) :
    Sorted (insertOrAssign false k v ms) ∧ find k (insertOrAssign false k v ms) = some v ∧
      ∀ k', k' ≠ k → find k' (insertOrAssign false k v ms) = find k' ms := insertOrAssign_map k v ms hs

theorem try_emplace_is_insert_if_absent (k : Bytes) (v : JVal) (ms : List (Bytes × JVal)) (hs : Sorted ms) :
    Sorted (tryEmplace false k v ms) ∧ find k (tryEmplace false k v ms) = some ((find k ms).getD v) ∧
      ∀ k', k' ≠ k → find k' (tryEmplace false k v ms) = find k' ms := tryEmplace_map k v ms hs

theorem erase_is_map_remove (k : Bytes) (ms : List (Bytes × JVal)) (hs : Sorted ms) :
    Sorted (erase k ms) ∧ find k (erase k ms) = none ∧ ∀ k', k' ≠ k → find k' (erase k ms) = find k' ms := erase_map k ms hs

theorem merge_keeps_invariant (src ms : List (Bytes × JVal)) (hs : Sorted ms) : Sorted (mergeInto false ms src) :=
  mergeInto_sorted src ms hs

theorem merge_keeps_existing_members (k : Bytes) (x : JVal) (src ms : List (Bytes × JVal)) (hs : Sorted ms)
    (h : find k ms = some x) : find k (mergeInto false ms src) = some x := mergeInto_keeps_existing k x src ms hs h

/-- sorted unique keys ⇒ no key occurs twice (what iteration shows) -/
theorem sorted_keys_nodup (ms : List (Bytes × JVal)) (hs : Sorted ms) : (keys ms).Nodup := sorted_nodup hs

/-! ### the integer comparison is the order of the numbers -/

open Model.Compare in
theorem int_compare_is_order (a b : Stored) (ha : a.WF) (hb : b.WF) :
    compareStored a b = (if a.val = b.val then 0 else if a.val < b.val then -1 else 1) := compareStored_eq a b ha hb

open Model.Compare in
theorem int_compare_refl (a : Stored) (ha : a.WF) : compareStored a a = 0 := by
  rw [compareStored_eq a a ha ha]
  have := cmpII_cases a.val a.val
  omega

open Model.Compare in
theorem int_compare_antisymm (a b : Stored) (ha : a.WF) (hb : b.WF) : compareStored b a = - compareStored a b := by
  rw [compareStored_eq a b ha hb, compareStored_eq b a hb ha]
  exact cmpII_antisymm _ _

open Model.Compare in
theorem int_compare_trans (a b c : Stored) (ha : a.WF) (hb : b.WF) (hc : c.WF)
    (h1 : compareStored a b < 0) (h2 : compareStored b c < 0) : compareStored a c < 0 := by
  rw [compareStored_eq a b ha hb] at h1
  rw [compareStored_eq b c hb hc] at h2
  rw [compareStored_eq a c ha hc]
  have := cmpII_cases a.val b.val
  have := cmpII_cases b.val c.val
  have := cmpII_cases a.val c.val
  omega

open Model.Compare in
/-- equality of the comparison is equality of the numbers, whatever the storage kinds -/
theorem int_compare_eq_iff (a b : Stored) (ha : a.WF) (hb : b.WF) : compareStored a b = 0 ↔ a.val = b.val := by
  rw [compareStored_eq a b ha hb]
  have := cmpII_cases a.val b.val
  omega

/-! ### the whole of `basic_json::compare` -/

section whole
open Model.Compare

/-- the integer arms of `compare` are `compareStored` -/
theorem compare_integer_arms (a b : Stored) :
    Compare.compare (match a with | .i64 v => .i64 v | .u64 v => .u64 v) (match b with | .i64 v => .i64 v | .u64 v => .u64 v) = compareStored a b := by
  cases a <;> cases b <;> simp [Compare.compare, compareStored, cmpII, cmpIU, cmpUI, cmpUU]

/-- `a == a` (two copies of a value) whenever the value holds no NaN and no infinity -/
theorem compare_refl (a : CVal) (ha : finite a = true) : Compare.compare a a = 0 := compare_refl_fin a ha

/-- `compare(b, a) = -compare(a, b)` whenever neither value holds a NaN or an infinity -/
theorem compare_antisymm (a b : CVal) (ha : finite a = true) (hb : finite b = true) : Compare.compare b a = - Compare.compare a b :=
  compare_antisymm_fin a b ha hb

-- FULL STATEMENT (false): ∀ a, compare a a = 0   and   ∀ a b, compare b a = - compare a b
/-- NaN: `r = a - b` is NaN, `r == 0` and `r < 0.0` are both false, so compare() answers 1 in both directions. `dom mcmp d7ff8000000000000 d3ff0000000000000` -/
theorem nan_compares_greater_both_ways :
    Compare.compare (.dbl 0x7ff8000000000000) (.dbl 0x3ff0000000000000) = 1 ∧ Compare.compare (.dbl 0x3ff0000000000000) (.dbl 0x7ff8000000000000) = 1 := by
  simp only [Compare.compare]; decide

/-- two values holding the same infinity are equal (they were not before the repair D88: inf - inf is NaN), and -inf < +inf.
    `dom mcmp d7ff0000000000000 d7ff0000000000000` -/
theorem inf_equals_itself : opEq (.dbl 0x7ff0000000000000) (.dbl 0x7ff0000000000000) = true ∧
    opEq (.dbl 0xfff0000000000000) (.dbl 0xfff0000000000000) = true ∧
    Compare.compare (.dbl 0xfff0000000000000) (.dbl 0x7ff0000000000000) = -1 := by
  simp only [opEq, Compare.compare]; decide

/-- the total preorder behind everything below: on `dom L`, `compare a b ≤ 0` is transitive -/
theorem compare_le_is_transitive (L : Bool) (a b c : CVal) (da : dom L a = true) (db : dom L b = true) (dc : dom L c = true)
    (h1 : Compare.compare a b ≤ 0) (h2 : Compare.compare b c ≤ 0) : Compare.compare a c ≤ 0 := compare_le_trans L a b c da db dc h1 h2

-- FULL STATEMENT (false, see the counterexamples below): for all a b c,  a == a,  a == b → b == a,  a == b → b == c → a == c
/-- `operator==` is an equivalence relation on `dom L` -/
theorem eq_is_equivalence_partial (L : Bool) :
    (∀ a, dom L a = true → opEq a a = true) ∧
    (∀ a b, dom L a = true → dom L b = true → opEq a b = true → opEq b a = true) ∧
    (∀ a b c, dom L a = true → dom L b = true → dom L c = true → opEq a b = true → opEq b c = true → opEq a c = true) := by
  refine ⟨?_, ?_, ?_⟩
  · intro a da
    rw [opEq_iff]
    exact compare_refl_fin a (dom_finite L a da)
  · intro a b da db h
    rw [opEq_iff] at *
    have := compare_antisymm_dom da db
    omega
  · intro a b c da db dc h1 h2
    rw [opEq_iff] at *
    have := compare_chain da db dc
    omega

-- FULL STATEMENT (false, see the counterexamples below): for all a b c,  ¬ a < a,  a < b → b < c → a < c,
--   (¬ a < b ∧ ¬ b < a) → (¬ b < c ∧ ¬ c < b) → (¬ a < c ∧ ¬ c < a),  and a == b ↔ (¬ a < b ∧ ¬ b < a)
/-- `operator<` is a strict weak ordering on `dom L`, and its incomparability relation is `operator==` -/
theorem lt_is_strict_weak_order_partial (L : Bool) :
    (∀ a, dom L a = true → opLt a a = false) ∧
    (∀ a b c, dom L a = true → dom L b = true → dom L c = true → opLt a b = true → opLt b c = true → opLt a c = true) ∧
    (∀ a b c, dom L a = true → dom L b = true → dom L c = true →
      (opLt a b = false ∧ opLt b a = false) → (opLt b c = false ∧ opLt c b = false) → (opLt a c = false ∧ opLt c a = false)) ∧
    (∀ a b, dom L a = true → dom L b = true → (opEq a b = true ↔ (opLt a b = false ∧ opLt b a = false))) := by
  refine ⟨?_, ?_, ?_, ?_⟩
  · intro a da
    rw [opLt_false_iff, compare_refl_fin a (dom_finite L a da)]
    omega
  · intro a b c da db dc h1 h2
    rw [opLt_iff] at *
    have := compare_chain da db dc
    omega
  · intro a b c da db dc h1 h2
    rw [opLt_false_iff, opLt_false_iff] at *
    have := compare_antisymm_dom da db
    have := compare_antisymm_dom db dc
    have := compare_antisymm_dom da dc
    have := compare_chain da db dc
    omega
  · intro a b da db
    rw [opEq_iff, opLt_false_iff, opLt_false_iff]
    have := compare_antisymm_dom da db
    omega

/-- `a == b` implies `a < c ↔ b < c` and `c < a ↔ c < b` on `dom L` (`==` is a congruence for `<`) -/
theorem eq_is_congruence_for_lt_partial (L : Bool) (a b c : CVal) (da : dom L a = true) (db : dom L b = true) (dc : dom L c = true)
    (h : opEq a b = true) : opLt a c = opLt b c ∧ opLt c a = opLt c b := by
  rw [opEq_iff] at h
  have := compare_antisymm_dom db dc
  have := compare_antisymm_dom da dc
  have := compare_chain da db dc
  constructor <;> rw [Bool.eq_iff_iff, opLt_iff, opLt_iff] <;> omega

/-! #### the full statements fail on the code: closed counterexamples (each reproduced on the real code, op lines in the comments) -/

/-- `==` is not transitive: 2^53+1 (int64) == 2^53 (double) == 2^53 (int64), the two integers differ.
    `dom mcmp I9007199254740993 d4340000000000000` → c0; `dom mcmp d4340000000000000 I9007199254740992` → c0;
    `dom mcmp I9007199254740993 I9007199254740992` → c1 -/
theorem eq_not_transitive_beyond_2_53 :
    opEq (.i64 9007199254740993) (.dbl 0x4340000000000000) = true ∧ opEq (.dbl 0x4340000000000000) (.i64 9007199254740992) = true ∧
    opEq (.i64 9007199254740993) (.i64 9007199254740992) = false ∧
    finite (.i64 9007199254740993) = true ∧ finite (.dbl 0x4340000000000000) = true ∧ finite (.i64 9007199254740992) = true := by
  simp only [opEq, Compare.compare, finite]; decide

/-- `<` has a cycle: 5 < json() < 1.0 < 5. `dom mcmp I5 E` → c-1; `dom mcmp E d3ff0000000000000` → c-1; `dom mcmp d3ff0000000000000 I5` → c-1 -/
theorem lt_cycle_through_empty_object :
    opLt (.i64 5) .emptyObj = true ∧ opLt .emptyObj (.dbl 0x3ff0000000000000) = true ∧ opLt (.dbl 0x3ff0000000000000) (.i64 5) = true := by
  simp only [opLt, Compare.compare]; decide

/-- `json() == json(json_object_arg)` but `json() < 1.0` and `json(json_object_arg) > 1.0`.
    `dom mcmp E { }` → c0; `dom mcmp E d3ff0000000000000` → c-1; `dom mcmp { } d3ff0000000000000` → c1 -/
theorem eq_not_congruent_empty_object :
    opEq .emptyObj (.obj []) = true ∧ opLt .emptyObj (.dbl 0x3ff0000000000000) = true ∧ opLt (.obj []) (.dbl 0x3ff0000000000000) = false := by
  simp only [opEq, opLt, Compare.compare]; decide

/-- `<` has a cycle: "b" < bytes(01) < "aaaaaaaaaaaaaa" (14 bytes, long_str) < "b".
    `dom mcmp s62 b01` → c-1; `dom mcmp b01 s6161616161616161616161616161` → c-1; `dom mcmp s6161616161616161616161616161 s62` → c-1 -/
theorem lt_cycle_short_long_strings :
    opLt (.str [98]) (.bstr [1]) = true ∧ opLt (.bstr [1]) (.str (List.replicate 14 97)) = true ∧
    opLt (.str (List.replicate 14 97)) (.str [98]) = true := by
  simp only [opLt, Compare.compare]; decide

/-- `<` has a cycle on arrays of numbers: [2^53, 5] < [2^53+1, 0] < [2^53 (double), 1] < [2^53, 5].
    `dom mcmp [ I9007199254740992 I5 ] [ I9007199254740993 I0 ]`, `dom mcmp [ I9007199254740993 I0 ] [ d4340000000000000 I1 ]`,
    `dom mcmp [ d4340000000000000 I1 ] [ I9007199254740992 I5 ]` → c-1 each -/
theorem lt_cycle_arrays_beyond_2_53 :
    opLt (.arr [.i64 9007199254740992, .i64 5]) (.arr [.i64 9007199254740993, .i64 0]) = true ∧
    opLt (.arr [.i64 9007199254740993, .i64 0]) (.arr [.dbl 0x4340000000000000, .i64 1]) = true ∧
    opLt (.arr [.dbl 0x4340000000000000, .i64 1]) (.arr [.i64 9007199254740992, .i64 5]) = true := by
  simp only [opLt, Compare.compare, arrEq, arrLt]; decide

/-! non-vacuity of the domain: nested values of every kind are in `dom false` -/
example : dom false (.arr [.null, .bool true, .i64 (-9007199254740992), .u64 9007199254740992, .dbl 0x3ff8000000000000, .half 0x3c00,
    .str [97], .bstr [0], .obj [([97], .arr []), ([98], .obj [])]]) = true := by decide
example : dom true (.obj [([97], .str (List.replicate 14 97))]) = true := by decide

end whole

/-! non-vacuity: the hypotheses are met by concrete states -/
example : Sorted ([([97], JVal.null), ([98], JVal.bool true)] : List (Bytes × JVal)) := ⟨by decide, trivial⟩
example : (Model.Compare.Stored.i64 (-1)).WF ∧ (Model.Compare.Stored.u64 (2 ^ 64 - 1)).WF := by
  constructor <;> simp [Model.Compare.Stored.WF]
example : Model.Compare.compareStored (.i64 (-1)) (.u64 (2 ^ 64 - 1)) = -1 := by decide

end C09
end Props
end JV
