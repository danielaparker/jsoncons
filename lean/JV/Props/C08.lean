/-
  C08 — encoders emit only well-formed output; transcoding stays valid.

  Proved here, (1) acceptance: the container-length bookkeeping of the CBOR encoder (Model JV.Model.EncoderLen = stack_item /
  end_value / visit_begin_* / visit_end_* of cbor_encoder.hpp; the MessagePack and UBJSON encoders use the
  same scheme), for event sequences of any shape and depth: if every announced length equals the number
  of items actually pushed the sequence is accepted and counts as exactly one item of its parent; an
  array or object announced with a wrong length is refused with too_few_items / too_many_items.

  Proved here, (2) the output denotes the input, for all four binary encoders on the data-model core: the encoders are modelled as
  consumers of visitor EVENTS (JV.Model.EncoderEvents: CBOR / MessagePack / UBJSON write each event's bytes at once, definite
  lengths; BSON keeps a stack of open containers, names array items by index, remembers the member name for the next value and
  back-patches every document's length when it ends - nothing reaches the sink before the root ends). For EVERY value v in the
  format's domain, feeding `events v` (the sequence basic_json::dump produces: each container announced with its length) to the
  encoder model (a) passes the length bookkeeping and leaves it balanced, and (b) leaves in the sink bytes which the format's
  reference decoder (JV.Spec.Cbor / Msgpack / Ubjson / Bson - written from the specifications, the ones the real decoders are judged
  by in C07) reads back as the documented image of v, leaving whatever follows untouched: `cbor_output_denotes_input`,
  `msgpack_output_denotes_input`, `ubjson_output_denotes_input`, `bson_output_denotes_input`. These are corollaries of the C06
  round trips through `*_events_are_encode` (the event-driven model writes exactly the bytes of the value-level model `encode`).
  They are statements about the encoder MODELS; the models are tied to the real encoders byte for byte by the C06 streams
  `cbor-encoder-model`, `msgpack-encoder-model`, `ubjson-encoder-model`, `bson-encoder-model` (value level, encode_X) and by this
  check's `encoder-events-model` stream (event level: the same event tokens pushed into the real *_bytes_encoder and into
  JV.Model.EncoderEvents, bytes and refusals compared).
  Domains: CBOR `OK` (ints in [-2^63, 2^64), lengths < 2^64), MessagePack `OKm` (lengths < 2^32), UBJSON `OKu` (ints < 2^63; a byte
  string comes back as the array of its bytes), BSON `OKb` (root a container - a root array comes back as the document keyed by its
  indices -, names without 0x00, ints < 2^63, whole document < 2^31 bytes; a byte string comes back marked "ext").

  Decided per case on the real code (see the check's streams): all four binary encoders and both JSON
  encoders on generated event sequences (right, wrong and absent lengths; tags; string packing), outputs
  judged by the Lean reference decoders / RFC 8259 reference parser and by decoding them back;
  MessagePack timestamps by an independent reader; transcoding between all formats and to JSON text.
  Defects of jsoncons these runs show: D27, D28 (fixed), D13 (open).
-/
import JV.Proofs.EncoderLen
import JV.Proofs.CborRoundtrip
import JV.Proofs.MsgpackRoundtrip
import JV.Proofs.UbjsonRoundtrip
import JV.Proofs.BsonRoundtrip
import JV.Proofs.EncoderEvents
namespace JV.Props.C08
open JV Model.EncoderLen

/-- exact announcements are accepted, at any nesting, inside any enclosing context -/
theorem exact_lengths_accepted (t : Tree) (st : List Frame) (h : Exact t) : run st (events t) = .ok (endValue st) :=
  run_exact t st h

/-- a whole document with exact announcements leaves the encoder balanced -/
theorem document_accepted (t : Tree) (h : Exact t) : run [] (events t) = .ok [] := by
  simpa [endValue] using run_exact t [] h

/-- too few or too many items in an array are reported, never written -/
theorem wrong_array_length_refused (n : Nat) (xs : List Tree) (st : List Frame) (hne : n ≠ xs.length) (hx : ExactList xs) :
    run st (events (.arr (some n) xs)) = .error (if xs.length < n then .tooFew else .tooMany) := by
  have hc : Frame.count { isObj := false, declared := some n, index := 0 + xs.length } = xs.length := by simp [Frame.count]
  rw [events, run_container _ _ _ _ _ st rfl rfl (run_exact_list xs _ st hx), closeTop_wrong _ st n rfl (by rw [hc]; exact hne), hc]

/-- the same for objects (the count is in members, each member being a key and a value) -/
theorem wrong_object_length_refused (n : Nat) (ms : List Tree) (st : List Frame) (hne : n ≠ ms.length) (hx : ExactList ms) :
    run st (events (.obj (some n) ms)) = .error (if ms.length < n then .tooFew else .tooMany) := by
  have hc : Frame.count { isObj := true, declared := some n, index := 0 + 2 * ms.length } = ms.length := by simp [Frame.count]
  rw [events, run_container _ _ _ _ _ st rfl rfl (run_exact_members ms _ st hx), closeTop_wrong _ st n rfl (by rw [hc]; exact hne), hc]

/-- the event sequence `basic_json::dump(visitor)` produces for a value (every container announced with its length) -/
abbrev valueEvents : Model.Cbor.CV → List Model.EncoderEvents.Ev := Model.EncoderEvents.events

/-- the events of a value, pushed into the event-driven encoder models, write exactly the bytes of the value-level models -/
theorem cbor_events_are_encode (v : Model.Cbor.CV) : Model.EncoderEvents.feed Model.EncoderEvents.Cbor.emit (valueEvents v) = Model.Cbor.encode v :=
  Model.EncoderEvents.Cbor.feed_events v
theorem msgpack_events_are_encode (v : Model.Cbor.CV) : Model.EncoderEvents.feed Model.EncoderEvents.Msgpack.emit (valueEvents v) = Model.Msgpack.encode v :=
  Model.EncoderEvents.Msgpack.feed_events v
theorem ubjson_events_are_encode (v : Model.Cbor.CV) : Model.EncoderEvents.feed Model.EncoderEvents.Ubjson.emit (valueEvents v) = Model.Ubjson.encode v :=
  Model.EncoderEvents.Ubjson.feed_events v
/-- BSON: through the stack of open containers and the back-patched lengths; refused (`none`) exactly for a scalar root -/
theorem bson_events_are_encode (v : Model.Cbor.CV) (h : Model.Bson.scalarsOK v = true) :
    Model.EncoderEvents.Bson.feed (valueEvents v) = Model.Bson.encode v :=
  Model.EncoderEvents.Bson.feed_events v h

/-- the events of ANY value announce exact lengths: the bookkeeping accepts them and ends balanced -/
theorem value_events_accepted (v : Model.Cbor.CV) : run [] ((valueEvents v).map Model.EncoderEvents.shape) = .ok [] := by
  rw [valueEvents, Model.EncoderEvents.shape_events]
  simpa [endValue] using run_exact _ [] (Model.EncoderEvents.exact_skel v)

/-- CBOR: for every value of the core in the domain, its events are accepted and the bytes the encoder model writes for them denote,
    under the RFC 8949 reference decoder, exactly that value (whatever follows is left untouched) -/
theorem cbor_output_denotes_input (v : Model.Cbor.CV) (hv : Model.Cbor.OK v) (rest : Bytes) :
    run [] ((valueEvents v).map Model.EncoderEvents.shape) = .ok [] ∧
    Spec.Cbor.item (Model.Cbor.need v) none (Model.EncoderEvents.feed Model.EncoderEvents.Cbor.emit (valueEvents v) ++ rest) = .ok (Model.Cbor.toBV v) rest := by
  rw [cbor_events_are_encode]
  exact ⟨value_events_accepted v, Model.Cbor.enc_dec v rest _ hv (Nat.le_refl _)⟩

/-- MessagePack: the same, under the MessagePack reference decoder -/
theorem msgpack_output_denotes_input (v : Model.Cbor.CV) (hv : Model.Msgpack.OKm v) (rest : Bytes) :
    run [] ((valueEvents v).map Model.EncoderEvents.shape) = .ok [] ∧
    Spec.Msgpack.item (Model.Cbor.need v) (Model.EncoderEvents.feed Model.EncoderEvents.Msgpack.emit (valueEvents v) ++ rest) = .ok (Model.Cbor.toBV v) rest := by
  rw [msgpack_events_are_encode]
  exact ⟨value_events_accepted v, Model.Msgpack.enc_dec v rest _ hv (Nat.le_refl _)⟩

/-- UBJSON: the same, under the UBJSON reference decoder (entered with explicit fuel: `Model.Ubjson.item`, which is
    `Spec.Ubjson.decode` by `C06.ubjson_item_is_decode`) and the documented mapping -/
theorem ubjson_output_denotes_input (v : Model.Cbor.CV) (hv : Model.Ubjson.OKu v) (rest : Bytes) :
    run [] ((valueEvents v).map Model.EncoderEvents.shape) = .ok [] ∧
    Model.Ubjson.item (Model.Ubjson.needU v) (Model.EncoderEvents.feed Model.EncoderEvents.Ubjson.emit (valueEvents v) ++ rest) = .ok (Model.Ubjson.toBVu v) rest := by
  rw [ubjson_events_are_encode]
  exact ⟨value_events_accepted v, Model.Ubjson.enc_dec v rest _ hv (Nat.le_refl _)⟩

/-- BSON: for every value in `OKb` the events are not refused, and what the root's end hands to the sink is read back by the BSON
    reference decoder's entry point as the documented image, leaving whatever follows untouched -/
theorem bson_output_denotes_input (v : Model.Cbor.CV) (hv : Model.Bson.OKb v) (rest : Bytes) :
    ∃ bytes, Model.EncoderEvents.Bson.feed (valueEvents v) = some bytes ∧
             Spec.Bson.decode (bytes ++ rest) = .ok (Model.Bson.toBVRoot v) rest := by
  rw [bson_events_are_encode v (Model.Bson.scalarsOK_of_OKv v hv.2.1)]
  exact Model.Bson.decode_encode v hv rest

example : Exact (.arr (some 2) [.scalar, .obj none [.scalar, .arr (some 0) []]]) := by
  simp [Exact, ExactList]
example : run [] (events (.arr (some 2) [.scalar])) = .error .tooFew := by rfl
example : run [] (events (.obj (some 1) [.scalar, .scalar])) = .error .tooMany := by rfl

/-- the events of { "a": [1, "x"], "b": {} } and what the four encoder models write for them -/
def sampleV : Model.Cbor.CV := .map [([97], .arr [.int 1, .str [120]]), ([98], .map [])]
example : (valueEvents sampleV).length = 10 := by decide
example : Model.EncoderEvents.feed Model.EncoderEvents.Cbor.emit (valueEvents sampleV) = [0xa2, 0x61, 0x61, 0x82, 0x01, 0x61, 0x78, 0x61, 0x62, 0xa0] := by decide
example : Model.EncoderEvents.feed Model.EncoderEvents.Msgpack.emit (valueEvents sampleV) = [0x82, 0xa1, 0x61, 0x92, 0x01, 0xa1, 0x78, 0xa1, 0x62, 0x80] := by decide
example : Model.EncoderEvents.feed Model.EncoderEvents.Ubjson.emit (valueEvents sampleV) =
    [123, 35, 85, 2, 85, 1, 97, 91, 35, 85, 2, 85, 1, 83, 85, 1, 120, 85, 1, 98, 123, 35, 85, 0] := by decide
example : Model.EncoderEvents.Bson.feed (valueEvents sampleV) =
    some [37, 0, 0, 0, 4, 97, 0, 21, 0, 0, 0, 16, 48, 0, 1, 0, 0, 0, 2, 49, 0, 2, 0, 0, 0, 120, 0, 0, 3, 98, 0, 5, 0, 0, 0, 0, 0] := by decide
/-- the BSON encoder refuses a scalar before any container, a second root, and an integer above INT64_MAX; an unfinished root leaves
    the sink empty -/
example : Model.EncoderEvents.Bson.feed [.int 1] = none ∧
    Model.EncoderEvents.Bson.feed [.beginObj 0, .endObj, .beginObj 0, .endObj] = none ∧
    Model.EncoderEvents.Bson.feed [.beginArr 1, .int (2 ^ 63)] = none ∧
    Model.EncoderEvents.Bson.feed [.beginArr 1, .int 1] = some [] := by decide
example : Model.Bson.OKb sampleV := by
  refine ⟨rfl, ?_, by decide +kernel, by decide +kernel⟩
  simp [sampleV, Model.Bson.OKv, Model.Bson.OKvList, Model.Bson.OKvMembers, Model.Bson.NameOK, Spec.Rfc8259.validUtf8]

end JV.Props.C08
