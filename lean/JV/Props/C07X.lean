/-
  C07X — the translator tie for C07: the type codes the real binary decoders and encoders switch on
  (msgpack_type.hpp, ubjson_type.hpp, bson_type.hpp, cbor_detail.hpp), REGENERATED from the C++ source on every
  run (tools/extract.py → JV/Extracted/BinTypes.lean), are the codes of the specifications — stated twice:
  (1) against an explicit table written here from the specification texts, and (2) against the reference decoders
  of JV.Spec (which carry the codes as literals in their `if` chains): a probe input built from the EXTRACTED code
  is decoded by the reference to the kind of value the constant's name promises. By evaluation, except the facts over all bytes or all indices:
  `bson_unlisted_type_illformed` follows the reference's chain of element types; `cbor_array_tags_iff` and
  `stringref_min_length_all_indices` split on the range.

  CBOR's `min_length_for_stringref` ladder is tied to the stringref specification (a string is only worth a table
  slot if a reference to it — tag 25 + the index as an unsigned integer — is shorter than the string) through the head
  writer model JV.Model.Cbor.writeHead: each rung ends exactly where the encoded index grows by a width.

  Hypotheses of the form `lookup ubjsonTypes "start_array_marker" = some sa` have exactly one solution each: they only name
  the extracted constants.
-/
import JV.Spec.Cbor
import JV.Spec.BinFormats
import JV.Model.Cbor
import JV.Extracted.Lookup
import JV.Extracted.BinTypes
import JV.Extracted.ErrorCodes
namespace JV.Props.C07X
open JV JV.Extracted Spec.Cbor

/-- what a reference decoder made of a probe -/
inductive Kind where
  | null | undef | true_ | false_ | int | half | dbl | str | bytes | arr | map | illformed | unjudged
  deriving DecidableEq, Repr

def kind : Res BV → Kind
  | .ok .null _ => .null
  | .ok .undef _ => .undef
  | .ok (.bool true) _ => .true_
  | .ok (.bool false) _ => .false_
  | .ok (.int _ _) _ => .int
  | .ok (.half _) _ => .half
  | .ok (.dbl _ _) _ => .dbl
  | .ok (.str _ _) _ => .str
  | .ok (.bytes _ _) _ => .bytes
  | .ok (.arr _) _ => .arr
  | .ok (.map _) _ => .map
  | .illformed => .illformed
  | .unjudged => .unjudged

/-- every (name, value) of `expected` is in `table` with that value, and `table` has no further entries -/
def sameTable (table expected : List (String × Nat)) : Bool :=
  expected.all (fun p => lookup table p.1 == some p.2) && table.length == expected.length

/-! ### MessagePack (spec: github.com/msgpack/msgpack/blob/master/spec.md, "Formats" overview) -/

theorem msgpack_codes_are_the_specs :
    sameTable msgpackTypes
      [("positive_fixint_base_type", 0x00), ("fixmap_base_type", 0x80), ("fixarray_base_type", 0x90), ("fixstr_base_type", 0xa0),
       ("nil_type", 0xc0), ("false_type", 0xc2), ("true_type", 0xc3),
       ("bin8_type", 0xc4), ("bin16_type", 0xc5), ("bin32_type", 0xc6), ("ext8_type", 0xc7), ("ext16_type", 0xc8), ("ext32_type", 0xc9),
       ("float32_type", 0xca), ("float64_type", 0xcb), ("uint8_type", 0xcc), ("uint16_type", 0xcd), ("uint32_type", 0xce), ("uint64_type", 0xcf),
       ("int8_type", 0xd0), ("int16_type", 0xd1), ("int32_type", 0xd2), ("int64_type", 0xd3),
       ("fixext1_type", 0xd4), ("fixext2_type", 0xd5), ("fixext4_type", 0xd6), ("fixext8_type", 0xd7), ("fixext16_type", 0xd8),
       ("str8_type", 0xd9), ("str16_type", 0xda), ("str32_type", 0xdb), ("array16_type", 0xdc), ("array32_type", 0xdd),
       ("map16_type", 0xde), ("map32_type", 0xdf), ("negative_fixint_base_type", 0xe0)] = true := by decide +kernel

theorem msgpack_codes_distinct : distinct (values msgpackTypes) = true ∧ ∀ v ∈ values msgpackTypes, v < 256 := by decide +kernel

/-- probes: (constant, bytes following the type byte, what the reference decoder must make of it) -/
def msgpackProbes : List (String × Bytes × Kind) :=
  [("positive_fixint_base_type", [], .int), ("negative_fixint_base_type", [], .int),
   ("fixmap_base_type", [], .map), ("fixarray_base_type", [], .arr), ("fixstr_base_type", [], .str),
   ("nil_type", [], .null), ("false_type", [], .false_), ("true_type", [], .true_),
   ("bin8_type", [1, 0xff], .bytes), ("bin16_type", [0, 1, 0xff], .bytes), ("bin32_type", [0, 0, 0, 1, 0xff], .bytes),
   ("ext8_type", [1, 5, 0xff], .unjudged), ("ext16_type", [0, 1, 5, 0xff], .unjudged), ("ext32_type", [0, 0, 0, 1, 5, 0xff], .unjudged),
   ("float32_type", [0x3f, 0x80, 0, 0], .dbl), ("float64_type", [0x3f, 0xf0, 0, 0, 0, 0, 0, 0], .dbl),
   ("uint8_type", [200], .int), ("uint16_type", [1, 0], .int), ("uint32_type", [1, 0, 0, 0], .int), ("uint64_type", [1, 0, 0, 0, 0, 0, 0, 0], .int),
   ("int8_type", [0x80], .int), ("int16_type", [0x80, 0], .int), ("int32_type", [0x80, 0, 0, 0], .int), ("int64_type", [0x80, 0, 0, 0, 0, 0, 0, 0], .int),
   ("fixext1_type", [5, 1], .unjudged), ("fixext2_type", [5, 1, 2], .unjudged), ("fixext4_type", [5, 1, 2, 3, 4], .unjudged),
   ("fixext8_type", [5, 1, 2, 3, 4, 5, 6, 7, 8], .unjudged), ("fixext16_type", [5, 1, 2, 3, 4, 5, 6, 7, 8, 9, 10, 11, 12, 13, 14, 15, 16], .unjudged),
   ("str8_type", [1, 0x61], .str), ("str16_type", [0, 1, 0x61], .str), ("str32_type", [0, 0, 0, 1, 0x61], .str),
   ("array16_type", [0, 1, 0xc0], .arr), ("array32_type", [0, 0, 0, 1, 0xc0], .arr),
   ("map16_type", [0, 1, 0xa1, 0x61, 0xc0], .map), ("map32_type", [0, 0, 0, 1, 0xa1, 0x61, 0xc0], .map)]

/-- the reference decoder reads each extracted code as the kind of item its name says (and consumes the whole probe's width:
    one byte less is ill-formed for every code that has a payload) -/
theorem msgpack_codes_mean_what_they_say :
    msgpackProbes.length = msgpackTypes.length ∧
    ∀ p ∈ msgpackProbes, (lookup msgpackTypes p.1).map (fun code => kind (Spec.Msgpack.decode (code :: p.2.1))) = some p.2.2
      ∧ (p.2.1 ≠ [] → (lookup msgpackTypes p.1).map (fun code => kind (Spec.Msgpack.decode (code :: p.2.1.dropLast))) = some .illformed) := by
  decide +kernel

/-- exact values through the extracted codes: widths and signedness -/
theorem msgpack_integer_widths :
    (lookup msgpackTypes "uint16_type").map (fun c => Spec.Msgpack.decode [c, 0x12, 0x34]) = some (.ok (.int 0x1234 "") [])
    ∧ (lookup msgpackTypes "int8_type").map (fun c => Spec.Msgpack.decode [c, 0x80]) = some (.ok (.int (-128) "") [])
    ∧ (lookup msgpackTypes "int32_type").map (fun c => Spec.Msgpack.decode [c, 0xff, 0xff, 0xff, 0xfe]) = some (.ok (.int (-2) "") [])
    ∧ (lookup msgpackTypes "negative_fixint_base_type").map (fun c => Spec.Msgpack.decode [c]) = some (.ok (.int (-32) "") []) := by
  simp only [lookup, msgpackTypes, String.reduceEq, ↓reduceIte, Option.map_some]
  exact ⟨rfl, rfl, rfl, rfl⟩

/-! ### UBJSON (draft 12: ubjson.org/type-reference) -/

theorem ubjson_markers_are_the_specs :
    sameTable ubjsonTypes
      [("null_type", 'Z'.toNat), ("no_op_type", 'N'.toNat), ("true_type", 'T'.toNat), ("false_type", 'F'.toNat),
       ("int8_type", 'i'.toNat), ("uint8_type", 'U'.toNat), ("int16_type", 'I'.toNat), ("int32_type", 'l'.toNat), ("int64_type", 'L'.toNat),
       ("float32_type", 'd'.toNat), ("float64_type", 'D'.toNat), ("high_precision_number_type", 'H'.toNat),
       ("char_type", 'C'.toNat), ("string_type", 'S'.toNat),
       ("start_array_marker", '['.toNat), ("end_array_marker", ']'.toNat), ("start_object_marker", '{'.toNat), ("end_object_marker", '}'.toNat),
       ("type_marker", '$'.toNat), ("count_marker", '#'.toNat)] = true := by decide +kernel

theorem ubjson_markers_distinct : distinct (values ubjsonTypes) = true ∧ ∀ v ∈ values ubjsonTypes, 32 < v ∧ v < 127 := by decide +kernel

def ubjsonProbes : List (String × Bytes × Kind) :=
  [("null_type", [], .null), ("true_type", [], .true_), ("false_type", [], .false_),
   ("int8_type", [0x80], .int), ("uint8_type", [0x80], .int), ("int16_type", [0x80, 0], .int), ("int32_type", [0x80, 0, 0, 0], .int),
   ("int64_type", [0x80, 0, 0, 0, 0, 0, 0, 0], .int), ("float32_type", [0x3f, 0x80, 0, 0], .dbl), ("float64_type", [0x3f, 0xf0, 0, 0, 0, 0, 0, 0], .dbl),
   ("high_precision_number_type", [85, 1, 49], .unjudged), ("char_type", [0x61], .str), ("string_type", [85, 1, 0x61], .str),
   ("no_op_type", [], .illformed)]

theorem ubjson_markers_mean_what_they_say :
    ∀ p ∈ ubjsonProbes, (lookup ubjsonTypes p.1).map (fun m => kind (Spec.Ubjson.decode (m :: p.2.1))) = some p.2.2 := by decide +kernel

/-- containers, built only from extracted markers: `[` … `]`, `{` … `}`, `[$U#U…`, `[#U…`; a no-op inside an open array is skipped -/
theorem ubjson_container_markers :
    ∀ sa ea so eo ty cnt u8 nl noop, lookup ubjsonTypes "start_array_marker" = some sa → lookup ubjsonTypes "end_array_marker" = some ea →
      lookup ubjsonTypes "start_object_marker" = some so → lookup ubjsonTypes "end_object_marker" = some eo →
      lookup ubjsonTypes "type_marker" = some ty → lookup ubjsonTypes "count_marker" = some cnt →
      lookup ubjsonTypes "uint8_type" = some u8 → lookup ubjsonTypes "null_type" = some nl → lookup ubjsonTypes "no_op_type" = some noop →
      kind (Spec.Ubjson.decode [sa, nl, noop, nl, ea]) = .arr ∧ kind (Spec.Ubjson.decode [so, u8, 1, 0x61, nl, eo]) = .map
      ∧ kind (Spec.Ubjson.decode [sa, ty, u8, cnt, u8, 2, 7, 8]) = .arr ∧ kind (Spec.Ubjson.decode [sa, cnt, u8, 1, nl]) = .arr
      ∧ kind (Spec.Ubjson.decode [sa, nl]) = .illformed ∧ kind (Spec.Ubjson.decode [sa, ty, u8, u8]) = .illformed := by
  intro sa ea so eo ty cnt u8 nl noop h1 h2 h3 h4 h5 h6 h7 h8 h9
  simp only [lookup, ubjsonTypes, String.reduceEq, ↓reduceIte, Option.some.injEq] at h1 h2 h3 h4 h5 h6 h7 h8 h9
  subst h1 h2 h3 h4 h5 h6 h7 h8 h9
  decide +kernel

/-! ### BSON (bsonspec.org/spec.html, version 1.1) -/

theorem bson_element_types_are_the_specs :
    sameTable bsonTypes
      [("double_type", 0x01), ("string_type", 0x02), ("document_type", 0x03), ("array_type", 0x04), ("binary_type", 0x05),
       ("undefined_type", 0x06), ("object_id_type", 0x07), ("bool_type", 0x08), ("datetime_type", 0x09), ("null_type", 0x0A),
       ("regex_type", 0x0B), ("javascript_type", 0x0D), ("symbol_type", 0x0E), ("javascript_with_scope_type", 0x0F),
       ("int32_type", 0x10), ("timestamp_type", 0x11), ("int64_type", 0x12), ("decimal128_type", 0x13),
       ("min_key_type", 0xFF), ("max_key_type", 0x7F)] = true := by decide +kernel

theorem bson_element_types_distinct : distinct (values bsonTypes) = true ∧ ∀ v ∈ values bsonTypes, 0 < v ∧ v < 256 := by decide +kernel

/-- a document with one element named "a" of the given type and payload -/
def bsonDoc (ty : Nat) (payload : Bytes) : Bytes := [4 + 1 + 2 + payload.length + 1, 0, 0, 0, ty, 0x61, 0] ++ payload ++ [0]

def memberKind : Res BV → Kind
  | .ok (.map [(_, v)]) rest => kind (.ok v rest)
  | .ok _ _ => .illformed
  | .illformed => .illformed
  | .unjudged => .unjudged

def bsonProbes : List (String × Bytes × Kind) :=
  [("double_type", [0, 0, 0, 0, 0, 0, 0xf0, 0x3f], .dbl), ("string_type", [2, 0, 0, 0, 0x62, 0], .str),
   ("document_type", [5, 0, 0, 0, 0], .map), ("array_type", [5, 0, 0, 0, 0], .arr),
   ("bool_type", [1], .true_), ("datetime_type", [1, 0, 0, 0, 0, 0, 0, 0], .int), ("null_type", [], .null),
   ("int32_type", [0xff, 0xff, 0xff, 0xff], .int), ("int64_type", [1, 0, 0, 0, 0, 0, 0, 0], .int),
   ("binary_type", [1, 0, 0, 0, 0, 0xff], .bytes), ("undefined_type", [], .unjudged), ("object_id_type", [1, 2, 3, 4, 5, 6, 7, 8, 9, 10, 11, 12], .unjudged),
   ("regex_type", [0x61, 0, 0], .unjudged), ("javascript_type", [1, 0, 0, 0, 0], .unjudged), ("symbol_type", [1, 0, 0, 0, 0], .unjudged),
   ("javascript_with_scope_type", [], .unjudged), ("timestamp_type", [1, 0, 0, 0, 0, 0, 0, 0], .unjudged),
   ("decimal128_type", [0, 0, 0, 0, 0, 0, 0, 0, 0, 0, 0, 0, 0, 0, 0x40, 0x30], .unjudged), ("min_key_type", [], .unjudged), ("max_key_type", [], .unjudged)]

/-- every extracted element type is an element type of the reference (judged kinds decode to the named kind, the rest is the
    reference's "well-formed, rendering is jsoncons' choice" class — none is ill-formed); 0x0C (DBPointer) and 0x14+ are in neither -/
theorem bson_element_types_mean_what_they_say :
    bsonProbes.length = bsonTypes.length ∧
    ∀ p ∈ bsonProbes, (lookup bsonTypes p.1).map (fun ty => memberKind (Spec.Bson.decode (bsonDoc ty p.2.1))) = some p.2.2 := by decide +kernel

theorem bson_unlisted_type_illformed (ty : Nat) (h : ty ∉ values bsonTypes) (hc : ty ≠ 0x0C) :
    memberKind (Spec.Bson.decode (bsonDoc ty [])) = .illformed := by
  have types : values bsonTypes = [1, 2, 3, 4, 5, 6, 7, 8, 9, 10, 11, 13, 14, 15, 16, 17, 18, 19, 255, 127] := by decide +kernel
  simp only [types, List.mem_cons, List.not_mem_nil, or_false, not_or] at h
  have name : Spec.Rfc8259.validUtf8 [0x61] = true := by decide
  -- the element `ty "a"` falls through the reference's whole chain of element types
  have element : Spec.Bson.elements 17 [ty, 0x61, 0, 0] = .illformed := by
    rw [Spec.Bson.elements]
    · simp [Spec.Bson.cstring, name, h, hc]
    · simp
  simp [Spec.Bson.decode, Spec.Bson.decodeWith, bsonDoc, Spec.Bson.document, Spec.takeN, Spec.leVal, element, memberKind]

/-- and every byte that is NOT an extracted element type (other than 0x0C, deprecated DBPointer, which the reference leaves unjudged)
    is ill-formed for the reference -/
theorem bson_other_types_illformed :
    ∀ ty, ty < 256 → ty ∉ values bsonTypes → ty ≠ 0x0C → memberKind (Spec.Bson.decode (bsonDoc ty [])) = .illformed :=
  fun ty _ h hc => bson_unlisted_type_illformed ty h hc

/-! ### CBOR (RFC 8949 §3, §3.1; RFC 8746; stringref: cbor.schmorp.de/stringref) -/

theorem cbor_major_types_are_rfc8949 :
    cborMajorType = [("unsigned_integer", 0), ("negative_integer", 1), ("byte_string", 2), ("text_string", 3), ("array", 4), ("map", 5),
      ("semantic_tag", 6), ("simple", 7)]
    ∧ lookup cborAdditionalInfo "indefinite_length" = some 31 := ⟨rfl, by simp [lookup, cborAdditionalInfo]⟩

def cborProbes : List (String × Nat × Bytes × Kind) :=
  -- (major type, additional information, following bytes, kind)
  [("unsigned_integer", 24, [200], .int), ("negative_integer", 0, [], .int), ("byte_string", 1, [0xff], .bytes), ("text_string", 1, [0x61], .str),
   ("array", 1, [0xf6], .arr), ("map", 1, [0x61, 0x61, 0xf6], .map), ("semantic_tag", 24, [0x20, 0x61, 0x61], .str),
   ("simple", 22, [], .null), ("simple", 20, [], .false_), ("simple", 21, [], .true_), ("simple", 23, [], .undef),
   ("simple", 25, [0x3c, 0], .half), ("simple", 27, [0x3f, 0xf0, 0, 0, 0, 0, 0, 0], .dbl)]

/-- initial byte = major type (from the extracted enum) × 32 + additional information: the reference reads the kind the name says;
    with the extracted `indefinite_length` an array/map/string is read up to the break, and is ill-formed on integers and tags -/
theorem cbor_major_types_mean_what_they_say :
    (∀ p ∈ cborProbes, (lookup cborMajorType p.1).map (fun m => kind (decode ((m * 32 + p.2.1) :: p.2.2.1))) = some p.2.2.2)
    ∧ ∀ il, lookup cborAdditionalInfo "indefinite_length" = some il →
        kind (decode [4 * 32 + il, 0xf6, 0xff]) = .arr ∧ kind (decode [5 * 32 + il, 0x61, 0x61, 0xf6, 0xff]) = .map
        ∧ kind (decode [3 * 32 + il, 0x61, 0x61, 0xff]) = .str ∧ kind (decode [2 * 32 + il, 0x41, 0x61, 0xff]) = .bytes
        ∧ kind (decode [0 * 32 + il]) = .illformed ∧ kind (decode [1 * 32 + il]) = .illformed ∧ kind (decode [6 * 32 + il, 0]) = .illformed := by
  refine ⟨by decide +kernel, ?_⟩
  intro il h
  simp only [lookup, cborAdditionalInfo, ↓reduceIte, Option.some.injEq] at h
  subst h
  decide +kernel

/-- the macro `JSONCONS_EXT_CBOR_0x00_0x17` lists exactly the additional-information values that ARE the argument (RFC 8949 §3:
    "less than 24"): those for which the reference's `readArg` consumes nothing -/
theorem cbor_small_args_are_direct :
    cborSmallArgs = List.range 24 ∧ ∀ ai, ai < 32 → (ai ∈ cborSmallArgs ↔ readArg ai [] = some (ai, [])) := by decide +kernel

theorem cbor_array_tags_iff (t : Nat) : t ∈ cborArrayTags ↔ (64 ≤ t ∧ t ≤ 87) := by
  have listed : ∀ t ∈ cborArrayTags, 64 ≤ t ∧ t ≤ 87 := by decide +kernel
  have complete : ∀ t, t < 88 → 64 ≤ t → t ∈ cborArrayTags := by decide +kernel
  exact ⟨listed t, fun h => complete t (by omega) h.1⟩

/-- the macro `JSONCONS_EXT_CBOR_ARRAY_TAGS` is the RFC 8746 typed-array block 64–87, the tags the reference leaves to jsoncons' rendering;
    the bit-field masks partition the low five bits and the shifts are the masks' lowest set bits -/
theorem cbor_typed_array_tags_are_rfc8746 :
    (∀ t, t < 256 → (t ∈ cborArrayTags ↔ (64 ≤ t ∧ t ≤ 87)))
    ∧ sameTable cborArrayTagFields
        [("cbor_array_tags_010_mask", 0xE0), ("cbor_array_tags_f_mask", 0x10), ("cbor_array_tags_s_mask", 0x08), ("cbor_array_tags_e_mask", 0x04),
         ("cbor_array_tags_ll_mask", 0x03), ("cbor_array_tags_010_shift", 5), ("cbor_array_tags_f_shift", 4), ("cbor_array_tags_s_shift", 3),
         ("cbor_array_tags_e_shift", 2), ("cbor_array_tags_ll_shift", 0)] = true
    ∧ (∀ t ∈ cborArrayTags, (t &&& 0xE0) >>> 5 = 2) :=
  ⟨fun t _ => cbor_array_tags_iff t, by decide +kernel, by decide +kernel⟩

/-- `min_length_for_stringref`, as extracted: rungs (largest index, minimum length) and the final else -/
theorem stringref_ladder_values :
    cborStringrefLadder = [(23, 3), (255, 4), (65535, 5), (4294967295, 7)] ∧ cborStringrefElse = 11 := ⟨rfl, rfl⟩

def minLengthForStringref (index : Nat) : Nat :=
  match cborStringrefLadder.find? (fun r => index ≤ r.1) with
  | some r => r.2
  | none => cborStringrefElse

/-- stringref specification: a string gets a slot iff it is at least as long as a reference to it — tag 25 (two bytes, 0xd8 0x19) followed by
    the index encoded as an unsigned integer. With the head writer model: on each rung the minimum length is 2 + (encoded size of any index of
    the rung), each rung ends exactly where the encoded index grows (so the rung's bound + 1 already needs more), rungs ascend -/
theorem stringref_ladder_is_the_stringref_spec :
    (∀ r ∈ cborStringrefLadder, r.2 = 2 + (Model.Cbor.writeHead 0 r.1).length ∧ (Model.Cbor.writeHead 0 r.1).length < (Model.Cbor.writeHead 0 (r.1 + 1)).length)
    ∧ cborStringrefElse = 2 + (Model.Cbor.writeHead 0 (2 ^ 64 - 1)).length
    ∧ (cborStringrefLadder.map (·.1)).Pairwise (· < ·)
    ∧ minLengthForStringref 0 = 2 + (Model.Cbor.writeHead 0 0).length := by decide +kernel

/-- for EVERY index the extracted ladder gives 2 + the size of the encoded index: the rungs' bounds are the head writer's width thresholds -/
theorem stringref_min_length_all_indices (index : Nat) :
    minLengthForStringref index = 2 + (Model.Cbor.writeHead 0 index).length := by
  have hl := stringref_ladder_values
  unfold minLengthForStringref Model.Cbor.writeHead
  rw [hl.1, hl.2]
  by_cases h1 : index ≤ 23
  · simp [List.find?, h1]
  · by_cases h2 : index ≤ 255
    · simp [List.find?, h1, h2]
    · by_cases h3 : index ≤ 65535
      · simp [List.find?, h1, h2, h3, Model.Cbor.beBytes]
      · by_cases h4 : index ≤ 4294967295
        · simp [List.find?, h1, h2, h3, h4, Model.Cbor.beBytes]
        · simp [List.find?, h1, h2, h3, h4, Model.Cbor.beBytes]

/-! ### error enumerations of the four decoders: 0 is success, values distinct -/
theorem binary_errc_wellformed :
    lookup cborErrc "success" = some 0 ∧ lookup msgpackErrc "success" = some 0 ∧ lookup ubjsonErrc "success" = some 0 ∧ lookup bsonErrc "success" = some 0
    ∧ distinct (values cborErrc) = true ∧ distinct (values msgpackErrc) = true ∧ distinct (values ubjsonErrc) = true ∧ distinct (values bsonErrc) = true
    ∧ (lookup cborErrc "unexpected_eof", lookup msgpackErrc "unexpected_eof", lookup ubjsonErrc "unexpected_eof", lookup bsonErrc "unexpected_eof")
        = (some 1, some 1, some 1, some 1) := by decide +kernel

end JV.Props.C07X
