/-
  C05X — the translator tie for C05: the stack buffers of write_number.hpp and the snprintf calls that fill them,
  REGENERATED from the C++ source on every run (tools/extract.py → JV/Extracted/Buffers.lean: every `char name[N];`,
  every `snprintf(target, sizeof(target), "fmt", precision, val)` with the function it is in, the precision the code passes,
  and whether the returned length is compared with `sizeof(target)` before the target is read).

  The length snprintf needs is libc's business; what is assumed about it is written down as `worstLen` (the longest text the three
  conversions can produce for ANY binary64 — finite, infinite or NaN — at precision p ≥ 1, derived from C17 7.21.6.1 and the binary64
  exponent range; not counting the terminating NUL). Under that assumption the theorems say, for every call site found in the source:
  the result fits the buffer it is written to, or the code checks the returned length before reading the buffer.
  Enlarging a format's output (another conversion, a larger fixed precision), shrinking a buffer or dropping a length check in the
  source changes the generated table and breaks the theorem.

  Defect D81 (residue of D2): with `char buffer[100]` the two `%1.*f` calls of dtoa_fixed(…, std::false_type) (precision 15 / 17, no
  length check; reached from write_double with float_chars_format::fixed and precision 0 whenever Grisu3 declines the value) can produce
  326 / 328 characters. Witness `fz enc ff | [ d708fe3e33b63c1c9 ]` = json(1.5843229051584129e+234) dumped with float_format fixed:
  ASan stack-buffer-overflow READ in dump_buffer. With `char buffer[352]` (/repo 962f882) `snprintf_results_fit` holds:
  1 + 309 + 1 + 17 + 1 = 329 ≤ 352.
-/
import JV.Extracted.Lookup
import JV.Extracted.Buffers
namespace JV.Props.C05X
open JV JV.Extracted

/-- longest output (characters, without the NUL) of `snprintf(…, fmt, p, (double)v)` over all binary64 `v`, for p ≥ 1 — ASSUMED of libc:
      %1.*e   [-]d.<p digits>e±ddd            1 + 1 + 1 + p + 1 + 1 + 3   (binary64 decimal exponents have at most three digits)
      %1.*g   style e with p-1 digits after the point (p + 7), or style f for exponents -4 … p-1: at most "-0.000" + p digits (p + 6)
      %1.*f   [-]<up to 309 digits>.<p digits>  (DBL_MAX = 1.797…e308 has 309 integer digits)
    inf / nan are 3–4 characters -/
def worstLen (fmt : String) (p : Nat) : Option Nat :=
  if fmt = "%1.*e" then some (p + 8)
  else if fmt = "%1.*g" then some (p + 7)
  else if fmt = "%1.*f" then some (p + 311)
  else none

structure Site where
  fn : String
  target : String
  size : Nat          -- 0: not a stack array (heap buffer sized from snprintf's own answer)
  fmt : String
  prec : Nat
  userPrec : Bool     -- the precision is the member `precision_` (caller supplied)
  checked : Bool      -- `length < sizeof(target)` is tested before the target is read
  deriving DecidableEq, Repr

def sites : List Site := snprintfCalls.map fun (a, b, c, d, e, f, g) => ⟨a, b, c, d, e, f, g⟩

/-- the precision is one the code chooses itself (not caller supplied) and the longest text, with its NUL, fits the stack buffer -/
def fits (s : Site) : Bool := !s.userPrec && match worstLen s.fmt s.prec with
  | some n => n + 1 ≤ s.size
  | none => false

/-- only the three conversions for which `worstLen` is stated are used, each with the `*` precision argument -/
theorem formats_are_known : ∀ s ∈ sites, (worstLen s.fmt s.prec).isSome = true := by decide +kernel

/-- the precisions the code itself chooses are digits10 and max_digits10 of binary64 -/
theorem fixed_precisions : ∀ s ∈ sites, s.userPrec = false → (s.prec = 15 ∨ s.prec = 17) := by decide +kernel

/-- %e and %g at the code's own precisions fit their 100-byte buffers (26 and 25 bytes needed at most) -/
theorem scientific_and_general_fit :
    ∀ s ∈ sites, s.userPrec = false → (s.fmt = "%1.*e" ∨ s.fmt = "%1.*g") → fits s = true := by decide +kernel

/-- every call with a caller-supplied precision into a stack buffer checks the returned length before reading the buffer … -/
theorem user_precision_sites_are_checked : ∀ s ∈ sites, s.userPrec = true → s.size ≠ 0 → s.checked = true := by decide +kernel

/-- … and every call into a heap buffer (size unknown statically) re-runs a checked stack call of the same function and format
    (the buffer is sized from that call's answer) -/
theorem heap_sites_follow_a_checked_site :
    ∀ s ∈ sites, s.size = 0 → ∃ t ∈ sites, t.fn = s.fn ∧ t.fmt = s.fmt ∧ t.size ≠ 0 ∧ t.checked = true ∧ t.userPrec = s.userPrec := by decide +kernel

/-- no snprintf result is read past its buffer: every call into a stack buffer either cannot produce more than the buffer holds
    (for any binary64 value) or has its returned length compared with `sizeof(buffer)` before the buffer is read -/
theorem snprintf_results_fit : ∀ s ∈ sites, s.size ≠ 0 → (s.checked = true ∨ fits s = true) := by decide +kernel

/-- in particular %f at the code's own precisions (dtoa_fixed, Grisu3 fallback): sign + 309 digits + '.' + 17 digits + NUL = 329 bytes (D81) -/
theorem fixed_format_fits :
    ∀ s ∈ sites, s.userPrec = false → s.fmt = "%1.*f" → fits s = true ∧ 1 + 309 + 1 + s.prec + 1 ≤ s.size := by decide +kernel

/-- precision requested through json_options is an int8_t (≤ 127): for %e and %g the 200-byte buffer of write_double then always
    suffices (136 and 135 bytes), so the heap path is only ever taken by %f — or by callers constructing write_double directly -/
theorem options_precision_e_g_fit_200 :
    optionsPrecisionType = "int8_t" ∧ optionsPrecisionDefault = 0
    ∧ ∀ s ∈ sites, s.userPrec = true → s.size ≠ 0 → (s.fmt = "%1.*e" ∨ s.fmt = "%1.*g") →
        ∀ p, p ≤ 127 → (worstLen s.fmt p).map (fun n => decide (n + 1 ≤ s.size)) = some true := by decide +kernel

/-- every stack target of a snprintf is one of the declared `char name[N]` arrays of the same function, with that N -/
theorem targets_are_declared_buffers : ∀ s ∈ sites, s.size ≠ 0 → (s.fn, s.target, s.size) ∈ charBuffers := by decide +kernel

/-- Grisu3 writes at most 17 digits and a NUL into the buffers of the `true_type` overloads (no snprintf there): they are large enough -/
theorem grisu_buffers_hold_17_digits :
    ∀ b ∈ charBuffers, (b.1 = "dtoa_general/true_type" ∨ b.1 = "dtoa_fixed/true_type") → lookup numericLimits "max_digits10" = some 17 ∧ 17 + 1 ≤ b.2.2 := by
  decide +kernel

end JV.Props.C05X
