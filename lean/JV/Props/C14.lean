/-
  C14 — JSON Pointer operations follow RFC 6901.

  Model : JV.Model.Pointer (jsonpointer.hpp: parse/to_string state machine, resolve, get, contains,
          add, add_if_absent, replace, remove, create_if_missing; state-passing: the document after
          an error is part of the result), for both object flavours.
          JV.Model.Unflatten (jsonpointer.hpp `unflatten`, `unflatten_object`, `try_unflatten_array`,
          `find_inner_last`, both `unflatten_options`), tied line by line to the real code.
  Spec  : JV.Spec.Rfc6901.
  Helper lemmas: JV.Proofs.PointerText, JV.Proofs.PointerOps, JV.Proofs.Number,
          JV.Proofs.Unflatten{Order,Leaves,Sorted,Build}.

  flatten / unflatten.  Proved for ALL documents of the sorted flavour (`jsoncons::json`):
    * `unflatten_flatten`: unflatten(flatten(d), options) = d for every `Roundtrippable` d, both options;
      `Roundtrippable` is decidable and asks only for the representation invariant (objects sorted by
      name, arrays shorter than 2^64) plus: default option - no non-empty object whose member names are
      exactly the RFC 6901 array indices 0..n-1; assume_object - no non-empty array.  Empty containers
      and scalars anywhere, also as the root, arrays of any length ("10" sorts before "2" in the pointer
      map), names with '/' '~', "-", "01" (/repo 52dff66) all round-trip.
    * `index_named_object_comes_back_as_array`: the default option's clause is necessary.
    * `flatten_pointers_resolve`: every pointer flatten emits addresses the value it is paired with.
  NOT proved (observed by the `flatten` stream of checks/c14.py against the documented behaviour):
    * under assume_object a non-empty array comes back as the object {"0":..,"n-1":..} (the exact image
      of documents that are not Roundtrippable; only the default-option case is a theorem here);
    * the insertion-ordered flavour (`ojson`, `ordered = true`): unflatten returns members in pointer
      order, so the round trip holds only up to member order; model and code are tied on it, no theorem.
-/
import JV.Proofs.PointerText
import JV.Proofs.PointerOps
import JV.Proofs.UnflattenBuild
namespace JV.Props.C14
open JV Model Model.Pointer

/-- printing any token list and parsing the text back is the identity (every byte value, empty
    tokens, `~` and `/` inside tokens) -/
theorem parse_toString (ts : List Bytes) : parse (Pointer.toString ts) = .ok ts :=
  Pointer.parse_toString ts

/-- parsing a pointer and printing it back is the identity on accepted pointers -/
theorem toString_parse (s : Bytes) (ts : List Bytes) (h : parse s = .ok ts) : Pointer.toString ts = s :=
  Pointer.toString_parse s ts h

/-- `~0`/`~1` escaping exactly as specified, byte by byte: `~` becomes `~0`, `/` becomes `~1`, every
    other byte stays -/
theorem escape_exact (c : Nat) :
    escapeToken [c] = (if c = 126 then [126, 48] else if c = 47 then [126, 49] else [c]) := by
  by_cases h1 : c = 126
  · simp [escapeToken, h1]
  · by_cases h2 : c = 47
    · simp [escapeToken, h2]
    · simp [escapeToken, h1, h2]

/-- array-index tokens: accepted only when RFC 6901's `array-index` syntax holds (never for `-`, signs,
    blanks, leading zeros), with the value it denotes … -/
theorem index_token_sound (tok : Bytes) (n : Nat) (h : decToIndex tok = some n) :
    Spec.Rfc6901.arrayIndex tok = some n :=
  decToIndex_sound h

/-- … and every `array-index` whose value fits `size_t` is accepted -/
theorem index_token_complete (tok : Bytes) (n : Nat) (h : Spec.Rfc6901.arrayIndex tok = some n) (hn : n < 2 ^ 64) :
    decToIndex tok = some n :=
  decToIndex_complete h hn

/-- `get` returns a value only if RFC 6901 evaluation yields that value … -/
theorem get_sound_wrt_rfc (d v : JVal) (ts : List Bytes) (h : get d ts = .ok v) : Spec.Rfc6901.eval d ts = some v :=
  get_sound ts d v h

/-- … and whenever RFC 6901 evaluation yields a value, `get` returns it (arrays shorter than 2^64). -/
theorem get_complete_wrt_rfc (d v : JVal) (ts : List Bytes) (hs : SmallArrays d)
    (h : Spec.Rfc6901.eval d ts = some v) : get d ts = .ok v :=
  get_complete ts d v hs h

theorem contains_iff (d : JVal) (ts : List Bytes) : contains d ts = true ↔ ∃ v, get d ts = .ok v := by
  unfold contains
  cases get d ts with
  | ok v => simp
  | error e => simp

/-- an operation that reports an error leaves the document untouched — for add, add_if_absent,
    replace (also with create_if_missing, which creates intermediate members in place) and remove,
    for sorted and insertion-ordered objects. -/
theorem error_leaves_doc (ordered create : Bool) (f : Final) (hf : f.isRemove = true → create = false)
    (d : JVal) (ts : List Bytes) (h : (apply ordered create f d ts).1 ≠ none) :
    (apply ordered create f d ts).2 = d :=
  apply_err ordered create f hf d ts h

/-- the string overloads do not touch the document on a syntax error either -/
theorem error_leaves_doc_str (ordered create : Bool) (f : Final) (hf : f.isRemove = true → create = false)
    (d : JVal) (loc : Bytes) (h : (applyStr ordered create f d loc).1 ≠ none) :
    (applyStr ordered create f d loc).2 = d := by
  unfold applyStr at h ⊢
  cases hp : parse loc with
  | error e => simp
  | ok ts =>
    rw [hp] at h
    exact error_leaves_doc ordered create f hf d ts h

/-- after a successful add / add_if_absent / replace at a location whose last token is not `-`,
    `get` at that location returns exactly the value written -/
theorem write_then_get (ordered create : Bool) (f : Final) (v : JVal)
    (hf : f = .add v ∨ f = .addIfAbsent v ∨ f = .replace v) (d : JVal) (ts : List Bytes)
    (hlast : ts.getLast? ≠ some [45]) (hok : (apply ordered create f d ts).1 = none) :
    get (apply ordered create f d ts).2 ts = .ok v := by
  cases ts with
  | nil => rcases hf with hf | hf | hf <;> subst hf <;> simp [apply, Pointer.get]
  | cons tok rest => exact modifyAt_then_get ordered create f v hf rest d tok hlast hok

/-- `-` appends: adding at the pointer "/" ++ "-" of an array makes the value its last element -/
theorem dash_appends (ordered create : Bool) (xs : List JVal) (v : JVal) :
    apply ordered create (.add v) (.arr xs) [[45]] = (none, .arr (xs ++ [v])) := by
  simp [apply, modifyAt, finalStep, isDash]

/-- `add` at an index inserts and shifts, `replace` overwrites in place -/
theorem add_inserts_replace_overwrites (ordered create : Bool) (xs : List JVal) (v : JVal) (tok : Bytes) (i : Nat)
    (hi : decToIndex tok = some i) (hlt : i < xs.length) (hd : isDash tok = false) :
    apply ordered create (.add v) (.arr xs) [tok] = (none, .arr (xs.take i ++ v :: xs.drop i)) ∧
    apply ordered create (.replace v) (.arr xs) [tok] = (none, .arr (xs.set i v)) := by
  have h1 : ¬ i > xs.length := by omega
  have h2 : ¬ i = xs.length := by omega
  have h3 : ¬ i ≥ xs.length := by omega
  simp [apply, modifyAt, finalStep, hd, hi, h1, h2, h3, insertAt]

/-- the documents `unflatten(flatten(d), options)` returns unchanged (`assumeObject` =
    `unflatten_options::assume_object`); see `SMap.roundtrippable` -/
def Roundtrippable (assumeObject : Bool) (d : JVal) : Prop := SMap.roundtrippable assumeObject d = true

instance (a : Bool) (d : JVal) : Decidable (Roundtrippable a d) := inferInstanceAs (Decidable (_ = true))

theorem unflatten_flatten (assumeObject : Bool) (d : JVal) (h : Roundtrippable assumeObject d) :
    unflatten false assumeObject (flatten false d) = .ok d := by
  have hwf := SMap.rt_wf assumeObject d h
  obtain ⟨F, hF, hne, hcol⟩ := SMap.flatten_collect d hwf.1 hwf.2
  rw [hF]
  cases F with
  | nil => exact absurd rfl hne
  | cons m ms =>
    simp only [unflatten, hcol]
    congr 1
    exact SMap.rebuilds assumeObject d h (depth (SMap.SL d) + 1) (Nat.lt_succ_self _)

/-- the default option's restriction is necessary: a sorted object whose member names are exactly
    the array indices 0..n-1 comes back as an array (the ambiguity doc/ref/jsonpointer/flatten.md documents) -/
theorem index_named_object_comes_back_as_array (m : Bytes × JVal) (ms : List (Bytes × JVal))
    (hs : SMap.sortedB (m :: ms) = true) (hc : SMap.rtMembers false (m :: ms) = true)
    (hal : SMap.arrayLike (m :: ms) = true) :
    ∃ xs, unflatten false false (flatten false (.obj (m :: ms))) = .ok (.arr xs) := by
  open SMap Assoc in
  have hmw := rtMembers_wf false _ hc
  have hw : JVal.WF (.obj (m :: ms)) := ⟨sorted_of_sortedB hs, hmw.1⟩
  obtain ⟨F, hF, hne, hcol⟩ := flatten_collect _ hw (by simpa [SmallArrays] using hmw.2)
  rw [hF]
  cases F with
  | nil => exact absurd rfl hne
  | cons m0 ms0 =>
    simp only [unflatten, hcol, SL]
    rw [build_members (assume := false) (sorted_iff_ssorted.1 hw.1) (isSortedLeaves_of_wfMembers (m :: ms) hmw.1)
      (rebuildsMembers false (m :: ms) hc) (Nat.lt_succ_self _), hal]
    exact ⟨_, rfl⟩

/-- every pointer flatten emits addresses (by `get`, hence by RFC 6901 evaluation: `get_sound_wrt_rfc`)
    the value it is paired with -/
theorem flatten_pointers_resolve (d : JVal) (hw : JVal.WF d) (hs : SmallArrays d) (ms : List (Bytes × JVal))
    (hf : flatten false d = .obj ms) : ∀ kv ∈ ms, getStr d kv.1 = .ok kv.2 := by
  intro kv hkv
  have hms : ms = flattenInto false [] d [] := by
    unfold flatten at hf; cases hf; rfl
  rw [hms] at hkv
  obtain ⟨e, he, rfl⟩ := ((SMap.flatten_spec d hw hs).2 kv).1 hkv
  simp only [getStr, Pointer.parse_toString]
  exact SMap.leaves_resolve d hw hs e he

/-- … and flatten emits a pointer for every leaf (scalar or empty container) of the document -/
theorem flatten_covers_leaves (d : JVal) (hw : JVal.WF d) (hs : SmallArrays d) (e : Entry) (he : e ∈ SMap.leaves d) :
    (Pointer.toString e.1, e.2) ∈ flattenInto false [] d [] :=
  ((SMap.flatten_spec d hw hs).2 _).2 ⟨e, he, rfl⟩

/-! ### non-vacuity -/

-- [ {"a":[], "b":{"0":1,"2":null}}, [1,[]] ] round-trips under the default option
example : Roundtrippable false (.arr [.obj [([97], .arr []), ([98], .obj [([48], .int 1), ([50], .null)])], .arr [.int 1, .arr []]]) := by decide
-- {"0":1,"1":null} does not (it comes back as [1,null]) but does under assume_object
example : ¬ Roundtrippable false (.obj [([48], .int 1), ([49], .null)]) := by decide
example : Roundtrippable true (.obj [([48], .int 1), ([49], .null), ([97], .arr [])]) := by decide
example : SMap.arrayLike [([48], .int 1), ([49], .null)] = true ∧ SMap.arrayLike [([48], .int 1), ([48, 48], .null)] = false := by decide
-- the theorem applied: a 12-element array (pointer order "/1" < "/10" < "/11" < "/2") inside an object
example : unflatten false false (flatten false (.obj [([97], .arr ((List.range 12).map fun i => .int (Int.ofNat i)))])) =
    .ok (.obj [([97], .arr ((List.range 12).map fun i => .int (Int.ofNat i)))]) := unflatten_flatten false _ (by decide)
-- scalar and empty roots
example : Roundtrippable false (.int 5) ∧ Roundtrippable true (.obj []) ∧ Roundtrippable true (.arr []) := by decide
-- a non-empty array is not roundtrippable under assume_object
example : ¬ Roundtrippable true (.arr [.int 1]) := by decide

example : parse [47, 97, 126, 49, 98, 47, 126, 48, 47] = .ok [[97, 47, 98], [126], []] := by rfl
example : decToIndex [49, 48] = some 10 ∧ decToIndex [48, 49] = none ∧ decToIndex [45] = none := by decide
example : (apply false true (.add (.int 7)) (.obj [([97], .arr [.int 1])]) [[98], [99]]).1 = none := by decide
example : (apply false true (.add (.int 7)) (.obj [([97], .arr [.int 1])]) [[97], [120], [99]]).1 ≠ none := by decide

end JV.Props.C14
