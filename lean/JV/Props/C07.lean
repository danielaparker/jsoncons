/-
  C07 — binary decoders implement their specifications.

  PROVED (this file; the equations of the model's `item` are in JV/Proofs/CborParserEquations.lean, those of the reference's in
  JV/Proofs/CborSpec.lean, the agreement proof in JV/Proofs/CborParser.lean):
    * the real CBOR decoder's logic — JV.Model.CborParser, a functional transcription of cbor_parser.hpp (read_item, read_uint64,
      read_int64, read_size, read_text_string_view / read_byte_string_view, iterate_string_chunks, read_double, begin/end_array/object
      with the nesting-depth check, the parse_mode state stack flattened into structural recursion) for the item grammar without tags,
      stringrefs and typed arrays — REFINES the RFC 8949 reference decoder JV.Spec.Cbor on every byte string, every fuel and every
      max_nesting_depth (`cbor_parser_model_refines_spec`, relation `Agrees`, value mapping `toBV textKey`):
        - it accepts only well-formed input, and the value it yields is the value the RFC assigns (`model_value_is_spec_value`,
          `model_accepts_only_wellformed`, `model_accepts_text_keyed`);
        - it rejects every ill-formed input (`model_rejects_illformed`) and accepts every well-formed input the reference judges,
          except for three documented outcomes that carry no claim about well-formedness: `max_nesting_depth_exceeded` (an implementation
          limit), `number_too_large` (-1-n below INT64_MIN) and `skip` (a tag: outside the modelled fragment) (`wellformed_is_accepted`);
      fragments stated separately for all inputs: `model_head_is_spec_head`, `model_int_is_spec_int`, `model_definite_string_is_spec`,
      `model_rejects_reserved`, `model_truncated_head_is_eof`, `model_break_outside_indefinite_is_error`, `model_error_codes`.
    * the real MessagePack decoder's logic — JV.Model.MsgpackParser, a functional transcription of msgpack_parser.hpp (the read_item
      type-byte dispatch over all 256 type bytes, get_size, fixstr/str/bin with UTF-8 validation, ext and fixext with the three timestamp
      layouts, begin/end_array/object with the nesting-depth check, the parse_mode state stack flattened into structural recursion) —
      REFINES the MessagePack reference decoder JV.Spec.Msgpack on every byte string, every fuel and every max_nesting_depth
      (`msgpack_parser_model_refines_spec`, `msgpack_parser_item_refines_spec`, relation `Model.MsgpackParser.Agrees`, value mapping
      `toBV textKey false`; helper lemmas in JV/Proofs/MsgpackParser.lean):
        - the same two claims as for CBOR (`mp_model_value_is_spec_value`, `mp_model_accepts_only_wellformed`, `mp_model_accepts_judged`;
          `mp_model_rejects_illformed`, `mp_wellformed_is_accepted`), the outcomes that carry no claim being `max_nesting_depth_exceeded`
          and `skip` (a list element that is not a byte);
        - ext items and timestamps are accepted exactly when their type byte and whole payload are present; their VALUE (bytes tagged ext,
          epoch_second integer, epoch_nano decimal text) is jsoncons' rendering, which the reference leaves unjudged;
      fragments stated separately for all inputs: `mp_model_fixint_is_spec`, `mp_model_int_is_spec_int` (uint8..64, int8..64),
      `mp_model_float_is_spec`, `mp_model_str_is_spec` (fixstr, str8/16/32), `mp_model_truncated_is_eof`, `mp_model_rejects_c1`,
      `mp_model_timestamps`, `mp_model_error_codes`.
    * the real UBJSON decoder's logic — JV.Model.UbjsonParser, a functional transcription of ubjson_parser.hpp (read_value over every
      marker incl. no-op and high-precision numbers, get_length, read_key, begin_array / begin_object with `$type` / `#count`, the nine
      container parse modes, max_items, max_nesting_depth) — stated per fragment for ALL inputs, every fuel, depth and option setting
      (helper lemmas in JV/Proofs/UbjsonParser.lean; the whole-grammar refinement is NOT proved for UBJSON): `ubj_model_int_is_spec_int`
      (i U I l L), `ubj_model_float_is_spec`, `ubj_model_str_is_spec` (with `getLength_of_spec`: every length item the reference reads is
      read identically), `ubj_model_truncated_is_eof`, `ubj_model_limits`, `ubj_model_error_codes`.
    * facts about the reference itself that the property names: `head_roundtrip`, `int_roundtrip`, `reserved_rejected`,
      `reserved_simple_rejected`, `truncated_head_rejected`, `half_sign_symmetric`, `half_normal`.

  OBSERVED on every run (checks/c07.py):
    * model = real code: stream `cbor-decoder-model` feeds the same bytes to the real decoder (`bin dec cbor`) and to the model
      (`bin mdec cbor`): identical error code, or identical value after the json_decoder's member-list normalisation; inputs with tags
      answer `skip`. Non-text map keys (rendered to text by basic_generic_to_json_visitor) are modelled for integers, booleans, null,
      undefined and byte strings and tied; the reference leaves them unjudged.
    * model = real code (MessagePack): stream `msgpack-decoder-model`, the same tie with `bin dec msgpack` / `bin mdec msgpack` (ext →
      bytes@ext, timestamps → i…@epoch_second / s…@epoch_nano, non-string keys rendered by basic_generic_to_json_visitor), on the
      MessagePack inputs judged against the reference plus ext items of every form and type, the three timestamp layouts (nanoseconds
      beyond 999999999, negative seconds), non-string keys, nesting at the depth limit and under small limits, every width at its boundary
      values, every strict prefix of those; `skip` only for float / container keys.
    * model = real code (UBJSON): stream `ubjson-decoder-model`, the same tie with `bin dec ubjson` / `bin mdec ubjson` and the options
      max_items, max_nesting_depth (H → s…@bigint / s…@bigdec, no-op elements absent), on the UBJSON inputs judged against the reference
      plus typed / counted / open containers of every element type, no-ops in every position, counts around max_items, nesting around
      the limit, bad keys and lengths, every strict prefix of a fixed list; `skip` only for a no-op marker as a member value or as the root.
    * real code = reference: the real CBOR / MessagePack / UBJSON / BSON decoders against the reference decoders written in Lean from the
      specifications (JV.Spec.Cbor, JV.Spec.BinFormats) on reference encodings in every legal width and form, mutations, every strict
      prefix, every 1–2 (thorough: sampled 3) byte string. The BSON decoder itself is not modelled.
  Fuel adequacy IS proved for the CBOR model (JV.Proofs.CborParserFuel, stated in Props.C05.cbor_fuel_suffices): with `decode`'s fuel
  2·|input|+2 the model never answers `Fail.fuel`, because every item read consumes at least one byte. For the MessagePack model it is
  observed only (`Fail.fuel` would print `fuel`, which never equals a real outcome).
  NOT proved: the float32→double widening is taken as the IEEE function f32ToF64.
  NOTED (D90, known): the MessagePack decoder does not range-check the nanoseconds of timestamp 64 / 96 (the specification: "nanoseconds
  must not be larger than 999999999"; msgpack_errc::invalid_timestamp is never raised): d7 ff ff ff ff fc 00 00 00 00 decodes to
  "1073741823"@epoch_nano. The model reproduces it and the reference leaves timestamps unjudged; the range is judged by the stream
  `msgpack-timestamp-range` alone.
-/
import JV.Spec.Cbor
import JV.Spec.BinFormats
import JV.Model.Cbor
import JV.Model.CborParser
import JV.Proofs.CborParser
import JV.Proofs.CborRoundtrip
import JV.Proofs.MsgpackSpec
import JV.Model.MsgpackParser
import JV.Proofs.MsgpackParser
import JV.Model.UbjsonParser
import JV.Proofs.UbjsonParser
import JV.Extracted.ErrorCodes
namespace JV.Props.C07
open JV Spec.Cbor Model.Cbor

/-- the argument of a head written by the encoder is read back exactly, for every width the ladder picks -/
theorem head_roundtrip (major n : Nat) (hm : major < 8) (hn : n < 2 ^ 64) (rest : Bytes) :
    ∃ ib tail, writeHead major n ++ rest = ib :: tail ∧ ib / 32 = major ∧ ib % 32 < 28 ∧ readArg (ib % 32) tail = some (n, rest) :=
  head_read major n hm hn rest

/-- every int64 written by the encoder model decodes to exactly that integer (both majors, all widths) -/
theorem int_roundtrip (v : Int) (hlo : -(2 ^ 63 : Int) ≤ v) (hhi : v < 2 ^ 63) :
    decode (writeInt v) = .ok (.int v "") [] := by
  simpa [decode] using item_int (2 * (writeInt v).length + 1) v [] hlo (by omega)

/-- reserved additional information 28–30 is ill-formed on every major type 0–6, whatever follows -/
theorem reserved_rejected (ib : Nat) (hmaj : ib / 32 ≠ 7) (hai : 28 ≤ ib % 32 ∧ ib % 32 ≤ 30) (rest : Bytes) (fuel : Nat) (tag : Option Nat) :
    item (fuel + 1) tag (ib :: rest) = .illformed :=
  spec_reserved fuel ib rest tag hmaj hai

/-- … and on major type 7 (28–30 and the stray break 31) -/
theorem reserved_simple_rejected (ai : Nat) (h : 28 ≤ ai ∧ ai ≤ 31) (rest : Bytes) (fuel : Nat) (tag : Option Nat) :
    item (fuel + 1) tag ((224 + ai) :: rest) = .illformed := by
  have h1 : (224 + ai) / 32 = 7 := by omega
  have h2 : (224 + ai) % 32 = ai := by omega
  have : ai ≠ 20 ∧ ai ≠ 21 ∧ ai ≠ 22 ∧ ai ≠ 23 ∧ ai ≠ 25 ∧ ai ≠ 26 ∧ ai ≠ 27 := by omega
  by_cases h31 : ai = 31
  · simp [item, h1, h2, h31]
  · have h28 : ai ≥ 28 := h.1
    simp [item, h1, h2, this, h31, h28]

/-- a head whose argument bytes are missing is ill-formed (truncation is never a value) -/
theorem truncated_head_rejected (major ai : Nat) (hm : major < 7) (hai : 24 ≤ ai ∧ ai ≤ 27) (fuel : Nat) (tag : Option Nat) :
    item (fuel + 1) tag [major * 32 + ai] = .illformed := by
  have h2 : (major * 32 + ai) % 32 = ai := by omega
  exact spec_no_arg fuel _ [] tag (by omega) (by omega) (by rw [h2]; exact readArg_nil hai.1)

/-- binary16 → binary64 keeps the sign for every pattern, zeros and subnormals included (the reference the `float16-values` stream compares
    `decode_half`, `as<double>()` and `decode_cbor<double>` with) -/
theorem half_sign_symmetric (h : Nat) (hh : h < 32768) : f16ToF64 (h + 32768) = f16ToF64 h + 2 ^ 63 := by
  have h1 : (h + 32768) / 32768 = 1 := by rw [Nat.add_div_right _ (by decide), Nat.div_eq_of_lt hh]
  have h2 : h / 32768 = 0 := Nat.div_eq_of_lt hh
  have h3 : (h + 32768) / 1024 % 32 = h / 1024 % 32 := by
    rw [show 32768 = 32 * 1024 from rfl, Nat.add_mul_div_right _ _ (by decide), Nat.add_mod_right]
  have h4 : (h + 32768) % 1024 = h % 1024 := Nat.add_mul_mod_self_right h 32 1024
  unfold f16ToF64
  simp only [h1, h2, h3, h4]
  split
  · omega
  · split
    · split <;> omega
    · omega

/-- normal halves: the exponent is re-biased by 1008 and the ten fraction bits move to the top of the 52 -/
theorem half_normal (s e m : Nat) (hs : s < 2) (he : 0 < e ∧ e < 31) (hm : m < 1024) :
    f16ToF64 (s * 32768 + e * 1024 + m) = s * 2 ^ 63 + (e + 1008) * 2 ^ 52 + m * 2 ^ 42 := by
  have h1 : (s * 32768 + e * 1024 + m) / 32768 = s := by omega
  have h2 : (s * 32768 + e * 1024 + m) / 1024 % 32 = e := by omega
  have h3 : (s * 32768 + e * 1024 + m) % 1024 = m := by omega
  unfold f16ToF64
  simp only [h1, h2, h3]
  have : e ≠ 31 := by omega
  have : e ≠ 0 := by omega
  simp [*]

example : f16ToF64 0x8001 = 0xbe70000000000000 := by decide
example : f16ToF64 0x8000 = 0x8000000000000000 := by decide
example : f16ToF64 0x03ff = 0x3f0ff80000000000 := by decide

/-! ### kernel-evaluated instances of the reference decoders (non-vacuity) -/
example : decode [0x83, 0x01, 0x20, 0xf6] = .ok (.arr [.int 1 "", .int (-1) "", .null]) [] := by rfl
example : decode [0x9f, 0x01, 0xff] = .ok (.arr [.int 1 ""]) [] := by rfl
example : decode [0xff] = .illformed := by rfl
example : decode [0x5f, 0x61, 0x61, 0xff] = .illformed := by rfl                    -- text chunk inside a byte string
example : decode [0x61, 0xff] = .illformed := by rfl                                -- invalid UTF-8
example : Spec.Msgpack.decode [0x92, 0xcc, 0xff, 0xd0, 0x80] = .ok (.arr [.int 255 "", .int (-128) ""]) [] := by rfl
example : Spec.Msgpack.decode [0xc1] = .illformed := by rfl
example : Spec.Bson.decode [0x0c, 0, 0, 0, 0x10, 0x61, 0, 1, 0, 0, 0, 0] = .ok (.map [([0x61], .int 1 "")]) [] := by rfl
example : Spec.Bson.decode [0x0d, 0, 0, 0, 0x10, 0x61, 0, 1, 0, 0, 0, 0] = .illformed := by rfl   -- size mismatch

/-! ### the real decoder's logic (JV.Model.CborParser) refines the RFC 8949 reference -/
section parser_model
open Model.CborParser

/-- THE REFINEMENT. For every byte string and every `max_nesting_depth`, the outcome of the cbor_parser model and the outcome of the RFC 8949
    reference decoder are related by `Agrees (toBV textKey)`:
      model value v, rest  /  reference value w, rest2   ⇒  toBV textKey v = some w ∧ rest = rest2   (same value, same bytes consumed)
      model value v        /  reference unjudged          ⇒  toBV textKey v = none                    (v has a map key that is not a text string)
      model value          /  reference ill-formed        ⇒  impossible
      model failure f      /  reference value             ⇒  f is max_nesting_depth_exceeded, number_too_large or skip (tag)
      model failure        /  reference ill-formed or unjudged ⇒  nothing is claimed (`Fail.fuel` also lands here)
    where `toBV textKey` is the documented value mapping: uint n ↦ int n, nint i ↦ int i, half / double / text / bytes unchanged with the
    empty tag, undefined ↦ undef, arrays and maps member-wise with text keys. -/
theorem cbor_parser_model_refines_spec (maxDepth : Nat) (bs : Bytes) :
    Agrees (toBV textKey) (Model.CborParser.decode maxDepth bs) (Spec.Cbor.decode bs) :=
  decode_agrees maxDepth bs

/-- the same at every fuel and nesting depth, for items in any position -/
theorem cbor_parser_item_refines_spec (maxDepth fuel depth : Nat) (s : Bytes) :
    Agrees (toBV textKey) (Model.CborParser.item maxDepth fuel depth s) (Spec.Cbor.item fuel none s) :=
  (agree_all maxDepth fuel).1 depth s

/-- whenever both decoders produce a value it is the same value and the same number of bytes was consumed -/
theorem model_value_is_spec_value (maxDepth : Nat) (bs : Bytes) (v : Item) (rest : Bytes) (w : BV) (rest2 : Bytes)
    (hm : Model.CborParser.decode maxDepth bs = .ok v rest) (hs : Spec.Cbor.decode bs = .ok w rest2) :
    toBV textKey v = some w ∧ rest = rest2 := by
  have h := decode_agrees maxDepth bs
  simpa [hm, hs, Agrees] using h

/-- the model never accepts an ill-formed input -/
theorem model_accepts_only_wellformed (maxDepth : Nat) (bs : Bytes) (v : Item) (rest : Bytes)
    (hm : Model.CborParser.decode maxDepth bs = .ok v rest) : Spec.Cbor.decode bs ≠ .illformed := by
  intro hs
  have h := decode_agrees maxDepth bs
  simp [hm, hs, Agrees] at h

/-- an accepted input whose map keys are all text strings is well-formed and decodes to exactly the value the RFC assigns -/
theorem model_accepts_text_keyed (maxDepth : Nat) (bs : Bytes) (v : Item) (rest : Bytes) (w : BV)
    (hm : Model.CborParser.decode maxDepth bs = .ok v rest) (hv : toBV textKey v = some w) : Spec.Cbor.decode bs = .ok w rest := by
  have h := decode_agrees maxDepth bs
  cases hs : Spec.Cbor.decode bs <;> simp_all [Agrees]

/-- every ill-formed input is rejected (or, if it starts with a tag, outside the fragment) -/
theorem model_rejects_illformed (maxDepth : Nat) (bs : Bytes) (hs : Spec.Cbor.decode bs = .illformed) :
    ∃ f, Model.CborParser.decode maxDepth bs = .fail f := by
  have h := decode_agrees maxDepth bs
  cases hm : Model.CborParser.decode maxDepth bs with
  | ok v rest => simp [hm, hs, Agrees] at h
  | fail f => exact ⟨f, rfl⟩

/-- every input the reference accepts is accepted with the same value, unless the nesting limit, the int64 range or a tag intervenes -/
theorem wellformed_is_accepted (maxDepth : Nat) (bs : Bytes) (w : BV) (rest : Bytes) (hs : Spec.Cbor.decode bs = .ok w rest) :
    (∃ v, Model.CborParser.decode maxDepth bs = .ok v rest ∧ toBV textKey v = some w) ∨
    Model.CborParser.decode maxDepth bs = .fail (.err .maxNestingDepthExceeded) ∨
    Model.CborParser.decode maxDepth bs = .fail (.err .numberTooLarge) ∨
    Model.CborParser.decode maxDepth bs = .fail .skip := by
  have h := decode_agrees maxDepth bs
  cases hm : Model.CborParser.decode maxDepth bs with
  | ok v r =>
    simp only [hm, hs, Agrees] at h
    exact Or.inl ⟨v, by rw [h.2], h.1⟩
  | fail f =>
    simp only [hm, hs, Agrees] at h
    cases f with
    | skip => simp
    | fuel => simp [Fail.lenient] at h
    | err e => cases e <;> simp_all [Fail.lenient]

/-- `read_uint64` is the RFC's argument reader for every initial byte and every tail -/
theorem model_head_is_spec_head (ib : Nat) (s : Bytes) :
    readUint64 (ib :: s) =
      if 28 ≤ ib % 32 then .fail (.err .unknownType)
      else match readArg (ib % 32) s with | some (n, r) => .ok n r | none => .fail (.err .unexpectedEof) :=
  readUint64_eq ib s

/-- majors 0 and 1, every width: n and -1-n exactly as the RFC says, over the full 64-bit argument; the only deviation is
    `number_too_large` for -1-n below -2^63 (which needs the 8-byte form) -/
theorem model_int_is_spec_int (maxDepth fuel depth ib : Nat) (s : Bytes) (n : Nat) (r : Bytes) (hai : ib % 32 < 28)
    (hr : readArg (ib % 32) s = some (n, r)) :
    (ib / 32 = 0 → Model.CborParser.item maxDepth (fuel + 1) depth (ib :: s) = .ok (.uint n) r ∧
                   Spec.Cbor.item (fuel + 1) none (ib :: s) = .ok (.int n "") r) ∧
    (ib / 32 = 1 → Spec.Cbor.item (fuel + 1) none (ib :: s) = .ok (.int (-1 - (n : Int)) "") r ∧
                   Model.CborParser.item maxDepth (fuel + 1) depth (ib :: s) =
                     if ib % 32 = 27 ∧ n > 2 ^ 63 - 1 then .fail (.err .numberTooLarge) else .ok (.nint (-1 - (n : Int))) r) := by
  refine ⟨fun hm => ⟨?_, spec_uint fuel ib s hai hr hm⟩, fun hm => ⟨spec_nint fuel ib s hai hr hm, ?_⟩⟩
  · rw [item_uint maxDepth fuel depth ib s hm, readUint64_arg ib s hai hr]; rfl
  · rw [item_nint maxDepth fuel depth ib s hm, readInt64_cons, readUint64_arg ib s hai hr]
    simp only [Res.bind]
    split <;> rfl

/-- definite text and byte strings: exactly the RFC's outcome — the `n` bytes that follow the head (unexpected_eof / ill-formed if fewer
    remain), text additionally checked by `unicode_traits::validate`, which accepts exactly well-formed UTF-8 (C02 `validator_is_rfc3629`) -/
theorem model_definite_string_is_spec (maxDepth fuel depth ib : Nat) (s : Bytes) (n : Nat) (s1 : Bytes) (hai : ib % 32 < 28)
    (hr : readArg (ib % 32) s = some (n, s1)) :
    (ib / 32 = 2 → Model.CborParser.item maxDepth (fuel + 1) depth (ib :: s) =
        (if s1.length < n then .fail (.err .unexpectedEof) else .ok (.bytes (s1.take n)) (s1.drop n)) ∧
      Spec.Cbor.item (fuel + 1) none (ib :: s) = (if s1.length < n then .illformed else .ok (.bytes (s1.take n) "") (s1.drop n))) ∧
    (ib / 32 = 3 → Model.CborParser.item maxDepth (fuel + 1) depth (ib :: s) =
        (if s1.length < n then .fail (.err .unexpectedEof)
         else if Spec.Rfc8259.validUtf8 (s1.take n) then .ok (.str (s1.take n)) (s1.drop n) else .fail (.err .invalidUtf8TextString)) ∧
      Spec.Cbor.item (fuel + 1) none (ib :: s) =
        (if s1.length < n then .illformed
         else if Spec.Rfc8259.validUtf8 (s1.take n) then .ok (.str (s1.take n) "") (s1.drop n) else .illformed)) := by
  have h31 : ¬ ib % 32 = 31 := by omega
  refine ⟨fun hm => ⟨?_, spec_bytes fuel ib s hai hr hm⟩, fun hm => ⟨?_, spec_text fuel ib s hai hr hm⟩⟩
  · rw [item_bytes maxDepth fuel depth ib s hm, readString_eq, if_neg h31, readSize, readUint64_arg ib s hai hr]
    simp only [Res.bind]
    split <;> rfl
  · rw [item_text maxDepth fuel depth ib s hm, readString_eq, if_neg h31, readSize, readUint64_arg ib s hai hr]
    by_cases hl : s1.length < n
    · simp [Res.bind, hl]
    · cases hu : Spec.Rfc8259.validUtf8 (s1.take n) <;> simp [Res.bind, hl, hu, badUtf8_eq]

/-- reserved additional information 28..30 (and 31 where no indefinite form exists) is `unknown_type`: in every argument read, and for
    items of majors 0–3 and 7 wherever they stand (majors 4/5 first count the nesting level) -/
theorem model_rejects_reserved (ib : Nat) (s : Bytes) (h : 28 ≤ ib % 32) :
    readUint64 (ib :: s) = .fail (.err .unknownType) ∧ readInt64 (ib :: s) = .fail (.err .unknownType) ∧
    (∀ maxDepth fuel depth, (ib / 32 = 0 ∨ ib / 32 = 1 ∨ ((ib / 32 = 2 ∨ ib / 32 = 3) ∧ ib % 32 ≠ 31) ∨ ib / 32 = 7) →
      Model.CborParser.item maxDepth (fuel + 1) depth (ib :: s) = .fail (.err .unknownType)) := by
  have hu := readUint64_reserved ib s h
  refine ⟨hu, by rw [readInt64_cons, hu]; rfl, ?_⟩
  intro maxDepth fuel depth hm
  by_cases hm7 : ib / 32 = 7
  · have : ib % 32 ≠ 20 ∧ ib % 32 ≠ 21 ∧ ib % 32 ≠ 22 ∧ ib % 32 ≠ 23 ∧ ib % 32 ≠ 25 ∧ ¬ (ib % 32 = 26 ∨ ib % 32 = 27) := by omega
    simp only [item_simple maxDepth fuel depth ib s hm7, this, if_false]
  · exact item_head_fail maxDepth fuel depth ib s (Or.inl (by omega)) (by omega) hu

/-- truncation is never a value: the empty input, and a head of majors 0–5 whose argument bytes are missing, are `unexpected_eof`
    (for majors 4/5 provided the nesting limit is not hit first) -/
theorem model_truncated_head_is_eof (maxDepth fuel depth major ai : Nat) (hm : major < 6) (hai : 24 ≤ ai ∧ ai ≤ 27) (hd : depth + 1 ≤ maxDepth) :
    Model.CborParser.item maxDepth (fuel + 1) depth [] = .fail (.err .unexpectedEof) ∧
    Model.CborParser.item maxDepth (fuel + 1) depth [major * 32 + ai] = .fail (.err .unexpectedEof) := by
  have h2 : (major * 32 + ai) % 32 = ai := by omega
  refine ⟨rfl, item_head_fail maxDepth fuel depth _ [] (Or.inr ⟨by omega, hd⟩) (by omega) ?_⟩
  exact readUint64_no_arg _ [] (by omega) (by rw [h2]; exact readArg_nil hai.1)

/-- a break (0xff) where an item is expected — at the root, as a definite array element, as a map value — is `unknown_type`; it ends an
    indefinite array or map only at an element / key position -/
theorem model_break_outside_indefinite_is_error (maxDepth fuel depth : Nat) (s : Bytes) :
    Model.CborParser.item maxDepth (fuel + 1) depth (0xff :: s) = .fail (.err .unknownType) ∧
    Model.CborParser.itemsIndef maxDepth (fuel + 1) depth (0xff :: s) = .ok [] s ∧
    Model.CborParser.membersIndef maxDepth (fuel + 1) depth (0xff :: s) = .ok [] s := by
  simp [Model.CborParser.item, Model.CborParser.itemsIndef, Model.CborParser.membersIndef]

/-- the model's error classes carry the numbers of `enum class cbor_errc` as extracted from cbor_error.hpp -/
theorem model_error_codes (e : Err) : (e.name, e.code) ∈ JV.Extracted.cborErrc := by
  -- walk down the extracted table to the entry of `e`
  cases e <;> repeat (first | exact List.Mem.head _ | apply List.Mem.tail)

/-! non-vacuity: kernel-evaluated runs of the model next to the reference -/
example : Model.CborParser.decode 1024 [0x83, 0x01, 0x20, 0xf6] = .ok (.arr [.uint 1, .nint (-1), .null]) [] := by rfl
example : toBV textKey (.arr [.uint 1, .nint (-1), .null]) = some (.arr [.int 1 "", .int (-1) "", .null]) := by rfl
example : Model.CborParser.decode 1024 [0x9f, 0x01, 0xff] = .ok (.arr [.uint 1]) [] := by rfl
example : Model.CborParser.decode 1024 [0xbf, 0x61, 0x61, 0x5f, 0x41, 0x01, 0xff, 0xff] = .ok (.map [(.str [0x61], .bytes [1])]) [] := by rfl
example : Model.CborParser.decode 1024 [0xff] = .fail (.err .unknownType) := by rfl
example : Model.CborParser.decode 1024 [0x5f, 0x61, 0x61, 0xff] = .fail (.err .illegalChunkedString) := by rfl
example : Model.CborParser.decode 1024 [0x61, 0xff] = .fail (.err .invalidUtf8TextString) := by rfl
example : Model.CborParser.decode 1024 [0x7f, 0x61, 0xc3, 0x61, 0xa9, 0xff] = .fail (.err .invalidUtf8TextString) := by rfl   -- é cut across chunks
example : Spec.Cbor.decode [0x7f, 0x61, 0xc3, 0x61, 0xa9, 0xff] = .illformed := by rfl
example : Model.CborParser.decode 1024 [0x3b, 0x80, 0, 0, 0, 0, 0, 0, 0] = .fail (.err .numberTooLarge) := by rfl
example : Model.CborParser.decode 1024 [0x3b, 0x7f, 0xff, 0xff, 0xff, 0xff, 0xff, 0xff, 0xff] = .ok (.nint (-9223372036854775808)) [] := by rfl
example : Model.CborParser.decode 1024 [0x1c] = .fail (.err .unknownType) := by rfl
example : Model.CborParser.decode 1024 [0x19, 0x01] = .fail (.err .unexpectedEof) := by rfl
example : Model.CborParser.decode 2 [0x81, 0x81, 0x81, 0x00] = .fail (.err .maxNestingDepthExceeded) := by rfl
example : Model.CborParser.decode 1024 [0xc1, 0x00] = .fail .skip := by rfl
example : Model.CborParser.decode 1024 [0xa1, 0x01, 0x02] = .ok (.map [(.uint 1, .uint 2)]) [] := by rfl
example : toBV textKey (.map [(.uint 1, .uint 2)]) = none ∧ Spec.Cbor.decode [0xa1, 0x01, 0x02] = .unjudged := by constructor <;> rfl
example : toBV renderKey (.map [(.bool true, .uint 2)]) = some (.map [([116, 114, 117, 101], .int 2 "")]) := by rfl   -- the adaptor renders the key `true`

end parser_model

/-! ### the real MessagePack decoder's logic (JV.Model.MsgpackParser) refines the MessagePack reference -/
section msgpack_parser_model
open Model.MsgpackParser Spec

/-- THE REFINEMENT for MessagePack, read like `cbor_parser_model_refines_spec`: `toBV textKey false v = none` when v contains an ext item /
    timestamp or a map key that is not a string; a model failure against a reference value is max_nesting_depth_exceeded or skip (a list
    element that is not a byte). `toBV textKey false` is the documented value mapping: uint n ↦ int n, nint i ↦ int i, double / str / bin
    unchanged with the empty tag, arrays and maps member-wise with string keys. -/
theorem msgpack_parser_model_refines_spec (maxDepth : Nat) (bs : Bytes) :
    Model.MsgpackParser.Agrees (toBV textKey false) (Model.MsgpackParser.decode maxDepth bs) (Spec.Msgpack.decode bs) :=
  Model.MsgpackParser.decode_agrees maxDepth bs

/-- the same at every fuel and nesting depth, for items in any position -/
theorem msgpack_parser_item_refines_spec (maxDepth fuel depth : Nat) (s : Bytes) :
    Model.MsgpackParser.Agrees (toBV textKey false) (Model.MsgpackParser.item maxDepth fuel depth s) (Spec.Msgpack.item fuel s) :=
  (Model.MsgpackParser.agree_all maxDepth fuel).1 depth s

/-- whenever both decoders produce a value it is the same value and the same number of bytes was consumed -/
theorem mp_model_value_is_spec_value (maxDepth : Nat) (bs : Bytes) (v : Model.MsgpackParser.Item) (rest : Bytes) (w : Spec.Cbor.BV) (rest2 : Bytes)
    (hm : Model.MsgpackParser.decode maxDepth bs = .ok v rest) (hs : Spec.Msgpack.decode bs = .ok w rest2) :
    toBV textKey false v = some w ∧ rest = rest2 := by
  have h := Model.MsgpackParser.decode_agrees maxDepth bs
  simpa [hm, hs, Model.MsgpackParser.Agrees] using h

/-- the model never accepts an ill-formed input -/
theorem mp_model_accepts_only_wellformed (maxDepth : Nat) (bs : Bytes) (v : Model.MsgpackParser.Item) (rest : Bytes)
    (hm : Model.MsgpackParser.decode maxDepth bs = .ok v rest) : Spec.Msgpack.decode bs ≠ .illformed := by
  intro hs
  have h := Model.MsgpackParser.decode_agrees maxDepth bs
  simp [hm, hs, Model.MsgpackParser.Agrees] at h

/-- an accepted input without ext items whose map keys are all strings is well-formed and decodes to exactly the value the
    specification assigns -/
theorem mp_model_accepts_judged (maxDepth : Nat) (bs : Bytes) (v : Model.MsgpackParser.Item) (rest : Bytes) (w : Spec.Cbor.BV)
    (hm : Model.MsgpackParser.decode maxDepth bs = .ok v rest) (hv : toBV textKey false v = some w) : Spec.Msgpack.decode bs = .ok w rest := by
  have h := Model.MsgpackParser.decode_agrees maxDepth bs
  cases hs : Spec.Msgpack.decode bs <;> simp_all [Model.MsgpackParser.Agrees]

/-- every ill-formed input is rejected -/
theorem mp_model_rejects_illformed (maxDepth : Nat) (bs : Bytes) (hs : Spec.Msgpack.decode bs = .illformed) :
    ∃ f, Model.MsgpackParser.decode maxDepth bs = .fail f := by
  have h := Model.MsgpackParser.decode_agrees maxDepth bs
  cases hm : Model.MsgpackParser.decode maxDepth bs with
  | ok v rest => simp [hm, hs, Model.MsgpackParser.Agrees] at h
  | fail f => exact ⟨f, rfl⟩

/-- every input the reference accepts is accepted with the same value, unless the nesting limit intervenes (or an element is not a byte) -/
theorem mp_wellformed_is_accepted (maxDepth : Nat) (bs : Bytes) (w : Spec.Cbor.BV) (rest : Bytes) (hs : Spec.Msgpack.decode bs = .ok w rest) :
    (∃ v, Model.MsgpackParser.decode maxDepth bs = .ok v rest ∧ toBV textKey false v = some w) ∨
    Model.MsgpackParser.decode maxDepth bs = .fail (.err .maxNestingDepthExceeded) ∨
    Model.MsgpackParser.decode maxDepth bs = .fail .skip := by
  have h := Model.MsgpackParser.decode_agrees maxDepth bs
  cases hm : Model.MsgpackParser.decode maxDepth bs with
  | ok v r =>
    simp only [hm, hs, Model.MsgpackParser.Agrees] at h
    exact Or.inl ⟨v, by rw [h.2], h.1⟩
  | fail f =>
    simp only [hm, hs, Model.MsgpackParser.Agrees] at h
    cases f with
    | skip => simp
    | fuel => simp [Model.MsgpackParser.Fail.lenient] at h
    | err e => cases e <;> simp_all [Model.MsgpackParser.Fail.lenient]

/-- positive and negative fixint: the type byte is the value (0..127, and -32..-1 as `static_cast<int8_t>`), exactly as the specification says -/
theorem mp_model_fixint_is_spec (maxDepth fuel depth b : Nat) (s : Bytes) :
    (b ≤ 0x7f → Model.MsgpackParser.item maxDepth (fuel + 1) depth (b :: s) = .ok (.uint b) s ∧
                Spec.Msgpack.item (fuel + 1) (b :: s) = .ok (.int b "") s) ∧
    (0xe0 ≤ b ∧ b ≤ 0xff → Model.MsgpackParser.item maxDepth (fuel + 1) depth (b :: s) = .ok (.nint ((b : Int) - 256)) s ∧
                Spec.Msgpack.item (fuel + 1) (b :: s) = .ok (.int ((b : Int) - 256) "") s) := by
  exact ⟨fun h => ⟨item_posfix maxDepth fuel depth s b h, Spec.Msgpack.spec_posfix fuel b s h⟩,
    fun h => ⟨item_negfix maxDepth fuel depth s b h.1 (by omega), Spec.Msgpack.spec_negfix fuel b s h.1⟩⟩

/-- uint8/16/32/64 (0xcc + k) and int8/16/32/64 (0xd0 + k), k = 0..3: the 2^k bytes that follow, big-endian, unsigned resp. two's
    complement — the model's value IS the specification's value, for every payload -/
theorem mp_model_int_is_spec_int (maxDepth fuel depth k : Nat) (hk : k < 4) (s d r : Bytes) (ht : takeN (2 ^ k) s = some (d, r)) :
    Model.MsgpackParser.item maxDepth (fuel + 1) depth ((0xcc + k) :: s) = .ok (.uint (Spec.Cbor.beVal d)) r ∧
    Spec.Msgpack.item (fuel + 1) ((0xcc + k) :: s) = .ok (.int (Spec.Cbor.beVal d) "") r ∧
    Model.MsgpackParser.item maxDepth (fuel + 1) depth ((0xd0 + k) :: s) = .ok (.nint (toSigned (8 * 2 ^ k) (Spec.Cbor.beVal d))) r ∧
    Spec.Msgpack.item (fuel + 1) ((0xd0 + k) :: s) = .ok (.int (toSigned (8 * 2 ^ k) (Spec.Cbor.beVal d)) "") r := by
  refine ⟨?_, ?_, ?_, ?_⟩
  · rw [item_uint maxDepth fuel depth s k hk, number, readBE_some ht]
  · rw [Spec.Msgpack.spec_uint fuel k hk, Spec.Msgpack.lenThen, ht]
  · rw [item_sint maxDepth fuel depth s k hk, number, readBE_some ht, ← asSigned_eq (2 ^ k)]
  · rw [Spec.Msgpack.spec_sint fuel k hk, Spec.Msgpack.lenThen, ht]

/-- float32 (widened exactly) and float64: the bit pattern that follows -/
theorem mp_model_float_is_spec (maxDepth fuel depth : Nat) (s d r : Bytes) :
    (takeN 4 s = some (d, r) →
      Model.MsgpackParser.item maxDepth (fuel + 1) depth (0xca :: s) = .ok (.dbl (Spec.Cbor.f32ToF64 (Spec.Cbor.beVal d))) r ∧
      Spec.Msgpack.item (fuel + 1) (0xca :: s) = .ok (.dbl (Spec.Cbor.f32ToF64 (Spec.Cbor.beVal d)) "") r) ∧
    (takeN 8 s = some (d, r) →
      Model.MsgpackParser.item maxDepth (fuel + 1) depth (0xcb :: s) = .ok (.dbl (Spec.Cbor.beVal d)) r ∧
      Spec.Msgpack.item (fuel + 1) (0xcb :: s) = .ok (.dbl (Spec.Cbor.beVal d) "") r) := by
  constructor <;> intro ht
  · rw [item_f32, Spec.Msgpack.spec_f32, number, readBE_some ht, Spec.Msgpack.lenThen, ht]
    exact ⟨rfl, rfl⟩
  · rw [item_f64, Spec.Msgpack.spec_f64, number, readBE_some ht, Spec.Msgpack.lenThen, ht]
    exact ⟨rfl, rfl⟩

/-- the outcome of a str item once its length `n` is known, on the model's and on the reference's side -/
def strOutcomeModel (n : Nat) (s : Bytes) : Model.MsgpackParser.Res Model.MsgpackParser.Item :=
  if s.length < n then .fail (.err .unexpectedEof)
  else if Spec.Rfc8259.validUtf8 (s.take n) then .ok (.str (s.take n)) (s.drop n) else .fail (.err .invalidUtf8TextString)

def strOutcomeSpec (n : Nat) (s : Bytes) : Spec.Cbor.Res Spec.Cbor.BV :=
  if s.length < n then .illformed
  else if Spec.Rfc8259.validUtf8 (s.take n) then .ok (.str (s.take n) "") (s.drop n) else .illformed

theorem readStr_outcome (n : Nat) (s : Bytes) : readStr n s = strOutcomeModel n s := by
  unfold readStr readSpan strOutcomeModel
  by_cases hl : s.length < n
  · simp [hl]
  · cases hu : Spec.Rfc8259.validUtf8 (s.take n) <;> simp [hl, Model.MsgpackParser.badUtf8_eq, hu]

/-- fixstr (0xa0 + n, n < 32) and str8/16/32 (0xd9 + k, a 2^k-byte big-endian length): exactly the specification's outcome, as for CBOR's
    definite text (`model_definite_string_is_spec`) -/
theorem mp_model_str_is_spec (maxDepth fuel depth : Nat) (s : Bytes) :
    (∀ n, n < 32 →
      Model.MsgpackParser.item maxDepth (fuel + 1) depth ((0xa0 + n) :: s) = strOutcomeModel n s ∧
      Spec.Msgpack.item (fuel + 1) ((0xa0 + n) :: s) = strOutcomeSpec n s) ∧
    (∀ k d r, k < 3 → takeN (2 ^ k) s = some (d, r) →
      Model.MsgpackParser.item maxDepth (fuel + 1) depth ((0xd9 + k) :: s) = strOutcomeModel (Spec.Cbor.beVal d) r ∧
      Spec.Msgpack.item (fuel + 1) ((0xd9 + k) :: s) = strOutcomeSpec (Spec.Cbor.beVal d) r) := by
  have hspec (n : Nat) (r : Bytes) : Spec.Msgpack.strOf n r = strOutcomeSpec n r := by
    simp only [Spec.Msgpack.strOf, strOutcomeSpec, takeN]
    by_cases hl : r.length < n <;> simp [hl]
  constructor
  · intro n hn
    have e2 : (0xa0 + n) % 32 = n := by omega
    constructor
    · rw [item_fixstr maxDepth fuel depth s _ (by omega) (by omega), e2]
      exact readStr_outcome n s
    · rw [Spec.Msgpack.spec_fixstr fuel _ s (by omega) (by omega), Nat.add_sub_cancel_left, hspec]
  · intro k d r hk ht
    constructor
    · rw [(item_sized maxDepth fuel depth s k hk).1, afterLen, readBE_some ht]
      exact readStr_outcome _ r
    · rw [Spec.Msgpack.spec_str fuel k hk, Spec.Msgpack.lenThen, ht]
      exact hspec _ r

/-- truncation is never a value: the empty input, a number whose bytes are cut short, a str / bin / ext / array16/32 / map16/32 whose
    length bytes are cut short are all `unexpected_eof` (containers: provided the nesting limit is not hit first) -/
theorem mp_model_truncated_is_eof (maxDepth fuel depth : Nat) (s : Bytes) :
    Model.MsgpackParser.item maxDepth (fuel + 1) depth [] = .fail (.err .unexpectedEof) ∧
    (∀ k, k < 4 → s.length < 2 ^ k →
      Model.MsgpackParser.item maxDepth (fuel + 1) depth ((0xcc + k) :: s) = .fail (.err .unexpectedEof) ∧
      Model.MsgpackParser.item maxDepth (fuel + 1) depth ((0xd0 + k) :: s) = .fail (.err .unexpectedEof)) ∧
    (s.length < 4 → Model.MsgpackParser.item maxDepth (fuel + 1) depth (0xca :: s) = .fail (.err .unexpectedEof)) ∧
    (s.length < 8 → Model.MsgpackParser.item maxDepth (fuel + 1) depth (0xcb :: s) = .fail (.err .unexpectedEof)) ∧
    (∀ k, k < 3 → s.length < 2 ^ k →
      Model.MsgpackParser.item maxDepth (fuel + 1) depth ((0xd9 + k) :: s) = .fail (.err .unexpectedEof) ∧
      Model.MsgpackParser.item maxDepth (fuel + 1) depth ((0xc4 + k) :: s) = .fail (.err .unexpectedEof) ∧
      Model.MsgpackParser.item maxDepth (fuel + 1) depth ((0xc7 + k) :: s) = .fail (.err .unexpectedEof)) ∧
    (∀ k, k < 2 → s.length < 2 * 2 ^ k → depth + 1 ≤ maxDepth →
      Model.MsgpackParser.item maxDepth (fuel + 1) depth ((0xdc + k) :: s) = .fail (.err .unexpectedEof) ∧
      Model.MsgpackParser.item maxDepth (fuel + 1) depth ((0xde + k) :: s) = .fail (.err .unexpectedEof)) := by
  have short (w : Nat) (hl : s.length < w) : readBE w s = .fail (.err .unexpectedEof) := if_pos hl
  refine ⟨rfl, ?_, ?_, ?_, ?_, ?_⟩
  · intro k hk hl
    rw [item_uint maxDepth fuel depth s k hk, item_sint maxDepth fuel depth s k hk, number, number, short _ hl]
    exact ⟨rfl, rfl⟩
  · intro hl; rw [item_f32, number, short _ hl]
  · intro hl; rw [item_f64, number, short _ hl]
  · intro k hk hl
    obtain ⟨h1, h2, h3⟩ := item_sized maxDepth fuel depth s k hk
    simp [h1, h2, h3, afterLen, short _ hl]
  · intro k hk hl hd
    obtain ⟨h1, h2⟩ := item_container maxDepth fuel depth s k hk
    simp [h1, h2, show ¬ maxDepth < depth + 1 by omega, afterLen, short _ hl]

/-- 0xc1 ("never used") is `unknown_type` wherever an item is expected, whatever follows; the reference calls it ill-formed -/
theorem mp_model_rejects_c1 (maxDepth fuel depth : Nat) (s : Bytes) :
    Model.MsgpackParser.item maxDepth (fuel + 1) depth (0xc1 :: s) = .fail (.err .unknownType) ∧
    Spec.Msgpack.item (fuel + 1) (0xc1 :: s) = .illformed := by
  exact ⟨rfl, rfl⟩

/-- timestamps (ext type -1 = 0xff): timestamp 32 (fixext4) is the unsigned seconds tagged epoch_second; timestamp 64 (fixext8) is
    nanoseconds (upper 30 bits) and seconds (lower 34 bits); timestamp 96 (ext8, length 12) is uint32 nanoseconds then int64 seconds; the
    last two are delivered as seconds·10^9 + nanoseconds tagged epoch_nano. Any other ext type with these payload sizes is a byte string
    carrying the ext type. -/
theorem mp_model_timestamps (maxDepth fuel depth : Nat) (s d r : Bytes) :
    (takeN 4 s = some (d, r) →
      Model.MsgpackParser.item maxDepth (fuel + 1) depth (0xd6 :: 0xff :: s) = .ok (.epochSec (Spec.Cbor.beVal d)) r) ∧
    (takeN 8 s = some (d, r) →
      Model.MsgpackParser.item maxDepth (fuel + 1) depth (0xd7 :: 0xff :: s) =
        .ok (.epochNano (((Spec.Cbor.beVal d % 2 ^ 34 : Nat) : Int) * 1000000000 + ((Spec.Cbor.beVal d / 2 ^ 34 : Nat) : Int))) r) ∧
    (∀ d2 r2, takeN 4 s = some (d, r) → takeN 8 r = some (d2, r2) →
      Model.MsgpackParser.item maxDepth (fuel + 1) depth (0xc7 :: 12 :: 0xff :: s) =
        .ok (.epochNano (toSigned 64 (Spec.Cbor.beVal d2) * 1000000000 + (Spec.Cbor.beVal d : Int))) r2) ∧
    (∀ ty, ty < 255 → takeN 4 s = some (d, r) →
      Model.MsgpackParser.item maxDepth (fuel + 1) depth (0xd6 :: ty :: s) = .ok (.ext ty d) r) := by
  refine ⟨?_, ?_, ?_, ?_⟩
  · intro ht
    simp [Model.MsgpackParser.item, sized, getSize, readExt, readBE_some ht, readBE_one]
  · intro ht
    simp [Model.MsgpackParser.item, sized, getSize, readExt, readBE_some ht, readBE_one]
  · intro d2 r2 ht ht2
    simp [Model.MsgpackParser.item, sized, getSize, readExt, readBE_some ht, readBE_some ht2, readBE_one, asSigned_eq]
  · intro ty hty ht
    have : ¬ ty = 255 := by omega
    simp [Model.MsgpackParser.item, sized, getSize, readExt, readSpan_some ht, readBE_one, this]

/-- the model's error classes carry the numbers of `enum class msgpack_errc` as extracted from msgpack_error.hpp -/
theorem mp_model_error_codes (e : Model.MsgpackParser.Err) : (e.name, e.code) ∈ JV.Extracted.msgpackErrc := by
  cases e <;> repeat (first | exact List.Mem.head _ | apply List.Mem.tail)

/-! non-vacuity: kernel-evaluated runs of the model next to the reference -/
example : Model.MsgpackParser.decode 1024 [0x93, 0xcc, 0xff, 0xd0, 0x80, 0xc0] = .ok (.arr [.uint 255, .nint (-128), .null]) [] := by rfl
example : toBV textKey false (.arr [.uint 255, .nint (-128), .null]) = some (.arr [.int 255 "", .int (-128) "", .null]) := by rfl
example : Spec.Msgpack.decode [0x93, 0xcc, 0xff, 0xd0, 0x80, 0xc0] = .ok (.arr [.int 255 "", .int (-128) "", .null]) [] := by rfl
example : Model.MsgpackParser.decode 1024 [0x81, 0xa1, 0x61, 0xc4, 0x01, 0x07] = .ok (.map [(.str [0x61], .bytes [7])]) [] := by rfl
example : Model.MsgpackParser.decode 1024 [0xc1] = .fail (.err .unknownType) := by rfl
example : Model.MsgpackParser.decode 1024 [0xa1, 0xff] = .fail (.err .invalidUtf8TextString) := by rfl
example : Spec.Msgpack.decode [0xa1, 0xff] = .illformed := by rfl
example : Model.MsgpackParser.decode 1024 [0xcd, 0x01] = .fail (.err .unexpectedEof) := by rfl
example : Model.MsgpackParser.decode 1024 [] = .fail (.err .unexpectedEof) := by rfl
example : Model.MsgpackParser.decode 1024 [0xdc, 0x00] = .fail (.err .unexpectedEof) := by rfl
example : Model.MsgpackParser.decode 2 [0x91, 0x91, 0x91, 0x00] = .fail (.err .maxNestingDepthExceeded) := by rfl
example : Model.MsgpackParser.decode 2 [0x91, 0x91, 0x00] = .ok (.arr [.arr [.uint 0]]) [] := by rfl
example : Model.MsgpackParser.decode 1024 [0xd3, 0x80, 0, 0, 0, 0, 0, 0, 0] = .ok (.nint (-9223372036854775808)) [] := by rfl
example : Model.MsgpackParser.decode 1024 [0xcf, 0xff, 0xff, 0xff, 0xff, 0xff, 0xff, 0xff, 0xff] = .ok (.uint 18446744073709551615) [] := by rfl
example : Model.MsgpackParser.decode 1024 [0xe0] = .ok (.nint (-32)) [] := by rfl
example : Model.MsgpackParser.decode 1024 [0xd6, 0xff, 0, 0, 0, 7] = .ok (.epochSec 7) [] := by rfl
example : Model.MsgpackParser.decode 1024 [0xd7, 0xff, 0, 0, 0, 4, 0, 0, 0, 2] = .ok (.epochNano 2000000001) [] := by rfl
example : Model.MsgpackParser.decode 1024 [0xc7, 12, 0xff, 0, 0, 0, 1, 0xff, 0xff, 0xff, 0xff, 0xff, 0xff, 0xff, 0xff] = .ok (.epochNano (-999999999)) [] := by rfl
example : Model.MsgpackParser.decode 1024 [0xd7, 0xff, 0xff, 0xff, 0xff, 0xfc, 0, 0, 0, 0] = .ok (.epochNano 1073741823) [] := by rfl   -- nanoseconds 2^30-1 > 999999999: accepted
example : Model.MsgpackParser.decode 1024 [0xd4, 0x05, 0x61] = .ok (.ext 5 [0x61]) [] := by rfl
example : toBV textKey false (.ext 5 [0x61]) = none ∧ Spec.Msgpack.decode [0xd4, 0x05, 0x61] = .unjudged := by constructor <;> rfl
example : toBV renderKey true (.ext 5 [0x61]) = some (.bytes [0x61] "ext") := by rfl
example : Model.MsgpackParser.decode 1024 [0x81, 0x01, 0x02] = .ok (.map [(.uint 1, .uint 2)]) [] := by rfl
example : toBV textKey false (.map [(.uint 1, .uint 2)]) = none ∧ Spec.Msgpack.decode [0x81, 0x01, 0x02] = .unjudged := by constructor <;> rfl
example : toBV renderKey true (.map [(.bool true, .uint 2)]) = some (.map [([116, 114, 117, 101], .int 2 "")]) := by rfl   -- the adaptor renders the key `true`
example : Model.MsgpackParser.decode 1024 [0xd4, 0xff] = .fail (.err .unexpectedEof) := by rfl

end msgpack_parser_model

/-! ### the real UBJSON decoder's logic (JV.Model.UbjsonParser), fragment by fragment against the UBJSON reference -/
section ubjson_parser_model
open Model.UbjsonParser Spec

/-- every integer marker (i U I l L), in any position, at every fuel, depth and option setting: when the payload is there the model
    (= the real read_value) and the reference yield the same integer and the same rest -/
theorem ubj_model_int_is_spec_int (o : Opts) (fuel depth : Nat) (s d r : Bytes) :
    (takeN 1 s = some (d, r) →
      value o (fuel + 1) depth 105 s = .ok (.nint (toSigned 8 (beVal d))) r ∧ Spec.Ubjson.valueOf (fuel + 1) 105 s = .ok (.int (toSigned 8 (beVal d)) "") r ∧
      value o (fuel + 1) depth 85 s = .ok (.uint (beVal d)) r ∧ Spec.Ubjson.valueOf (fuel + 1) 85 s = .ok (.int (beVal d) "") r) ∧
    (takeN 2 s = some (d, r) →
      value o (fuel + 1) depth 73 s = .ok (.nint (toSigned 16 (beVal d))) r ∧ Spec.Ubjson.valueOf (fuel + 1) 73 s = .ok (.int (toSigned 16 (beVal d)) "") r) ∧
    (takeN 4 s = some (d, r) →
      value o (fuel + 1) depth 108 s = .ok (.nint (toSigned 32 (beVal d))) r ∧ Spec.Ubjson.valueOf (fuel + 1) 108 s = .ok (.int (toSigned 32 (beVal d)) "") r) ∧
    (takeN 8 s = some (d, r) →
      value o (fuel + 1) depth 76 s = .ok (.nint (toSigned 64 (beVal d))) r ∧ Spec.Ubjson.valueOf (fuel + 1) 76 s = .ok (.int (toSigned 64 (beVal d)) "") r) := by
  refine ⟨?_, ?_, ?_, ?_⟩ <;> intro ht <;> unfold Spec.Ubjson.valueOf <;>
    simp [value, Spec.Ubjson.valueOf, Spec.Ubjson.intOf, number, readBE_some ht, ht, asSigned_eq]

/-- d and D: the four resp. eight bytes that follow are the bit pattern, float32 widened exactly -/
theorem ubj_model_float_is_spec (o : Opts) (fuel depth : Nat) (s d r : Bytes) :
    (takeN 4 s = some (d, r) →
      value o (fuel + 1) depth 100 s = .ok (.dbl (f32ToF64 (beVal d))) r ∧ Spec.Ubjson.valueOf (fuel + 1) 100 s = .ok (.dbl (f32ToF64 (beVal d)) "") r) ∧
    (takeN 8 s = some (d, r) →
      value o (fuel + 1) depth 68 s = .ok (.dbl (beVal d)) r ∧ Spec.Ubjson.valueOf (fuel + 1) 68 s = .ok (.dbl (beVal d) "") r) := by
  constructor <;> intro ht <;> unfold Spec.Ubjson.valueOf <;> simp [value, number, readBE_some ht, ht]

/-- S: whenever the reference reads the length item (any of i U I l L, not negative), the model reads the same length, and then both
    sides have the same outcome: too few bytes → unexpected_eof / ill-formed, invalid UTF-8 → invalid_utf8_text_string / ill-formed,
    otherwise the same string and the same rest -/
theorem ubj_model_str_is_spec (o : Opts) (fuel depth : Nat) (s r : Bytes) (n : Nat) (hl : Spec.Ubjson.length s = some (n, r)) :
    (r.length < n → value o (fuel + 1) depth 83 s = .fail (.err .unexpectedEof) ∧ Spec.Ubjson.valueOf (fuel + 1) 83 s = .illformed) ∧
    (¬ r.length < n → Rfc8259.validUtf8 (r.take n) = false →
      value o (fuel + 1) depth 83 s = .fail (.err .invalidUtf8TextString) ∧ Spec.Ubjson.valueOf (fuel + 1) 83 s = .illformed) ∧
    (¬ r.length < n → Rfc8259.validUtf8 (r.take n) = true →
      value o (fuel + 1) depth 83 s = .ok (.str (r.take n)) (r.drop n) ∧ Spec.Ubjson.valueOf (fuel + 1) 83 s = .ok (.str (r.take n) "") (r.drop n)) := by
  have hg := getLength_of_spec hl
  refine ⟨?_, ?_, ?_⟩
  · intro h
    unfold Spec.Ubjson.valueOf
    simp [value, Spec.Ubjson.valueOf, readStr, hg, hl, readSpan, takeN, h]
  · intro h hv
    unfold Spec.Ubjson.valueOf
    simp [value, Spec.Ubjson.valueOf, readStr, hg, hl, readSpan, takeN, h, badUtf8_eq, hv]
  · intro h hv
    unfold Spec.Ubjson.valueOf
    simp [value, Spec.Ubjson.valueOf, readStr, hg, hl, readSpan, takeN, h, badUtf8_eq, hv]

/-- truncation: no type byte, a number whose payload is short, a char without its byte, a string / high-precision number / key without
    its length item, a container that stops after `[` / `{` / `$` / `$t`: unexpected_eof (key_expected for the key) -/
theorem ubj_model_truncated_is_eof (o : Opts) (fuel depth : Nat) (s : Bytes) :
    decodeWith o fuel [] = .fail (.err .unexpectedEof) ∧
    (s.length < 1 → value o (fuel + 1) depth 105 s = .fail (.err .unexpectedEof) ∧ value o (fuel + 1) depth 85 s = .fail (.err .unexpectedEof) ∧
      value o (fuel + 1) depth 67 s = .fail (.err .unexpectedEof) ∧ value o (fuel + 1) depth 83 s = .fail (.err .unexpectedEof) ∧
      value o (fuel + 1) depth 72 s = .fail (.err .unexpectedEof) ∧ readKey s = .fail (.err .keyExpected)) ∧
    (s.length < 2 → value o (fuel + 1) depth 73 s = .fail (.err .unexpectedEof)) ∧
    (s.length < 4 → value o (fuel + 1) depth 108 s = .fail (.err .unexpectedEof) ∧ value o (fuel + 1) depth 100 s = .fail (.err .unexpectedEof)) ∧
    (s.length < 8 → value o (fuel + 1) depth 76 s = .fail (.err .unexpectedEof) ∧ value o (fuel + 1) depth 68 s = .fail (.err .unexpectedEof)) ∧
    (depth + 1 ≤ o.maxDepth → ∀ isArr t,
      container o (fuel + 1) depth isArr [] = .fail (.err .unexpectedEof) ∧ container o (fuel + 1) depth isArr [36] = .fail (.err .unexpectedEof) ∧
      container o (fuel + 1) depth isArr [36, t] = .fail (.err .unexpectedEof)) := by
  refine ⟨rfl, ?_, ?_, ?_, ?_, ?_⟩
  · intro h
    have : s = [] := by cases s <;> simp_all
    subst this
    simp [value, number, readBE, readChar, readStr, readBig, getLength, readKey]
  · intro h; simp [value, number, readBE_short h]
  · intro h; simp [value, number, readBE_short h]
  · intro h; simp [value, number, readBE_short h]
  · intro h isArr t
    have : ¬ depth + 1 > o.maxDepth := by omega
    simp [container, this]

/-- the limits come first: a container at the nesting limit is max_nesting_depth_exceeded whatever follows; a count above max_items is
    max_items_exceeded -/
theorem ubj_model_limits (o : Opts) (fuel depth : Nat) (isArr : Bool) (s r : Bytes) (n ty : Nat) :
    (o.maxDepth < depth + 1 → container o (fuel + 1) depth isArr s = .fail (.err .maxNestingDepthExceeded)) ∧
    (depth + 1 ≤ o.maxDepth → getLength s = .ok n r → o.maxItems < n →
      container o (fuel + 1) depth isArr (35 :: s) = .fail (.err .maxItemsExceeded) ∧
      container o (fuel + 1) depth isArr (36 :: ty :: 35 :: s) = .fail (.err .maxItemsExceeded)) := by
  constructor
  · intro h; simp [container, h]
  · intro h hg hn
    have : ¬ depth + 1 > o.maxDepth := by omega
    simp [container, this, hg, hn]

/-- the model's error classes carry the numbers of `enum class ubjson_errc` as extracted from ubjson_error.hpp -/
theorem ubj_model_error_codes (e : Model.UbjsonParser.Err) : (e.name, e.code) ∈ JV.Extracted.ubjsonErrc := by
  cases e <;> repeat (first | exact List.Mem.head _ | apply List.Mem.tail)

/-! non-vacuity: kernel-evaluated runs of the model next to the reference -/
example : decode {} [91, 36, 105, 35, 85, 2, 255, 1] = .ok (.arr [.nint (-1), .nint 1]) [] := by rfl
example : toBV false false (.arr [.nint (-1), .nint 1]) = some (.arr [.int (-1) "", .int 1 ""]) := by rfl
example : decode {} [123, 105, 1, 97, 83, 105, 1, 98, 125] = .ok (.map [([97], .str [98])]) [] := by rfl
example : decode {} [91, 36, 78, 35, 105, 3] = .ok (.arr [.noop, .noop, .noop]) [] := by rfl
example : toBV true true (.arr [.noop, .noop, .noop]) = some (.arr []) := by rfl
example : decode {} [72, 85, 2, 45, 53] = .ok (.big [45, 53] true) [] := by rfl
example : decode {} [72, 85, 2, 255, 254] = .ok (.big [255, 254] false) [] := by rfl
example : decode {} [91, 35, 105, 255] = .fail (.err .lengthIsNegative) := by rfl
example : decode {} [123, 90] = .fail (.err .keyExpected) := by rfl
example : decode {} [91, 36, 105, 88] = .fail (.err .countRequiredAfterType) := by rfl
example : decode { maxItems := 2 } [91, 84, 84, 84, 93] = .fail (.err .maxItemsExceeded) := by rfl
example : decode { maxDepth := 1 } [91, 91, 93, 93] = .fail (.err .maxNestingDepthExceeded) := by rfl
example : decode {} [67, 128] = .fail (.err .invalidUtf8TextString) := by rfl

end ubjson_parser_model

end JV.Props.C07
